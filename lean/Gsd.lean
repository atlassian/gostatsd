import Gsd.Driver.AggCommon
import Gsd.Driver.C01
import Gsd.Driver.C02
import Gsd.Driver.C03
import Gsd.Driver.C04
import Gsd.Driver.C05
import Gsd.Driver.C06
import Gsd.Driver.C07
import Gsd.Driver.C08
import Gsd.Driver.C09
import Gsd.Driver.C10
import Gsd.Driver.C11
import Gsd.Driver.C12
import Gsd.Driver.C13
import Gsd.Driver.C14
import Gsd.Driver.C15
import Gsd.Driver.C16
import Gsd.Driver.C17
import Gsd.Driver.C18
import Gsd.Driver.C19
import Gsd.Driver.C20
import Gsd.Driver.LexCommon
import Gsd.Driver.MMCodec
import Gsd.Driver.Proto
import Gsd.Generated.Facts
import Gsd.Model.AList
import Gsd.Model.Aggregator
import Gsd.Model.BackendPanics
import Gsd.Model.Backends
import Gsd.Model.Bytes
import Gsd.Model.Cache
import Gsd.Model.Cloud
import Gsd.Model.Datagram
import Gsd.Model.Events
import Gsd.Model.ExactQ
import Gsd.Model.Expiry
import Gsd.Model.Forward
import Gsd.Model.Grammar
import Gsd.Model.Ingest
import Gsd.Model.K8s
import Gsd.Model.Lambda
import Gsd.Model.Lexer
import Gsd.Model.MetricMap
import Gsd.Model.Pipeline
import Gsd.Model.Sender
import Gsd.Model.Split
import Gsd.Model.Tags
import Gsd.Model.Ticker
import Gsd.Proofs.C01
import Gsd.Proofs.C02
import Gsd.Proofs.C03
import Gsd.Proofs.C04
import Gsd.Proofs.C05
import Gsd.Proofs.C06
import Gsd.Proofs.C07
import Gsd.Proofs.C08
import Gsd.Proofs.C09
import Gsd.Proofs.C10
import Gsd.Proofs.C11
import Gsd.Proofs.C12
import Gsd.Proofs.C13
import Gsd.Proofs.C14
import Gsd.Proofs.C15
import Gsd.Proofs.C16
import Gsd.Proofs.C17
import Gsd.Proofs.C18
import Gsd.Proofs.C19
import Gsd.Proofs.C20
import Gsd.Proofs.Lemmas.AList
import Gsd.Proofs.Lemmas.Agg
import Gsd.Proofs.Lemmas.Aggregator
import Gsd.Proofs.Lemmas.Backends
import Gsd.Proofs.Lemmas.C04
import Gsd.Proofs.Lemmas.Cache
import Gsd.Proofs.Lemmas.Cloud
import Gsd.Proofs.Lemmas.Datagram
import Gsd.Proofs.Lemmas.Delivery
import Gsd.Proofs.Lemmas.Events
import Gsd.Proofs.Lemmas.Expiry
import Gsd.Proofs.Lemmas.Forward
import Gsd.Proofs.Lemmas.K8s
import Gsd.Proofs.Lemmas.Lambda
import Gsd.Proofs.Lemmas.Lexer
import Gsd.Proofs.Lemmas.LexerAttrs
import Gsd.Proofs.Lemmas.LexerEvent
import Gsd.Proofs.Lemmas.LexerRun
import Gsd.Proofs.Lemmas.List
import Gsd.Proofs.Lemmas.MetricMap
import Gsd.Proofs.Lemmas.Pipeline
import Gsd.Proofs.Lemmas.PipelineKeys
import Gsd.Proofs.Lemmas.Relay
import Gsd.Proofs.Lemmas.RelayEvent
import Gsd.Proofs.Lemmas.Sender
import Gsd.Proofs.Lemmas.Split
import Gsd.Proofs.Lemmas.Tags
import Gsd.Proofs.Lemmas.Ticker

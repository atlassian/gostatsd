import Gsd.Proofs.Lemmas.Delivery
import Gsd.Proofs.Lemmas.MetricMap
/-!
# C15 — the forwarder delivers every batch exactly once or reports it dropped

* `C15_drain_conservation*` — the consolidator's slot protocol under **every interleaving** of
  dispatchers (`take` / `put`) with the non-atomic `Drain` (`drainOne`), the sink send and `Fill`.
  Content is abstracted to dispatch ids; `C07_slots` / `C07_mergeMaps` say that a slot's content is the
  aggregate of exactly the dispatches merged into it.
* `C15_split_partition*` — `SplitByTags` for every key function, then for `tagsMatch`.
* `C15_retry*` — the retry loop of `post` for every outcome script and every back-off oracle.
* `C15_isolation*` — the unit of serialisation failure is one split map.  On the pinned tree that is
  *not* one client's series (D8): negative witness `C15_D8_witness`.
-/
namespace Gsd
open AList

/-- **C15_drain_conservation.**  For every number of slots `k` and **every** schedule of
`take` / `put` / `drainOne` / `send` / `fill` actions that the system can execute from its initial state:

1. *exactly once*: every dispatch id handed out so far occurs exactly once in the whole system —
   in one completed drain, in the drain being collected, in a slot in the channel, in a slot a
   dispatcher holds, or still in the dispatcher's hand — and no other id occurs at all;
2. a dispatch that obtained its slot while `f` drains had completed (i.e. before or *during* drain
   number `f`) and whose drain has completed is contained in the result of drain `f` **exactly once and
   in no other drain** — never in both, never in neither.  In particular a dispatch that returned
   before drain `f` began is in drain `f`; one that runs concurrently with drain `f` either obtains its
   slot before the drain reaches it — then the drain waits for it and it is in drain `f` — or blocks
   until `Fill` and is in drain `f + 1`;
3. a dispatch whose index is the current number of completed drains is still pending (not lost, not
   yet delivered);
4. every id handed out has a log entry, at most the current drain number. -/
theorem C15_drain_conservation (k : Nat) (acts : List CA) (s : CS) (h : crun (cinit k) acts = some s) :
    (∀ d, s.occ d = if d < s.next then 1 else 0) ∧
    (∀ d f : Nat, s.log[d]? = some f → f < s.flushes.length →
        (s.flushes[f]?.getD []).count d = 1 ∧ (∀ j : Nat, j ≠ f → (s.flushes[j]?.getD []).count d = 0) ∧ ¬ s.pending d) ∧
    (∀ d : Nat, s.log[d]? = some s.flushes.length → s.pending d ∧ occLL d s.flushes = 0) ∧
    (∀ d, d < s.next → ∃ f, s.log[d]? = some f ∧ f ≤ s.flushes.length) := by
  have g := (cinv_run _ _ _ (cinv_init k) h).ghost
  refine ⟨fun d => ?_, fun d f hl hf => ?_, fun d hl => ?_, fun d hd => ?_⟩
  · rw [CS.occ_eq, g.ids.count_eq, List.count_range]
  · have hnp : d ∉ s.pend := fun hp => by rw [g.logPend d hp] at hl; cases hl; omega
    have hin : ∀ j, d ∈ s.flushes[j]?.getD [] → j = f := fun j hj => by
      rw [g.logDone j d hj] at hl; cases hl; rfl
    obtain ⟨j, hj, hdj⟩ := (g.place (g.lt_of_log hl)).resolve_right hnp
    rw [hin j hdj] at hdj
    have hnd : (s.flushes[f]?.getD []).Nodup := by
      rw [List.getElem?_eq_getElem hf]
      exact (List.nodup_append.mp g.nodup).1.sublist (List.sublist_flatten_of_mem (List.getElem_mem hf))
    exact ⟨by rw [hnd.count, if_pos hdj], fun i hi => List.count_eq_zero.mpr fun hm => hi (hin i hm),
      fun hp => hnp ((s.pending_iff d).mp hp)⟩
  · rcases g.place (g.lt_of_log hl) with ⟨j, hj, hdj⟩ | hp
    · rw [g.logDone j d hdj] at hl; cases hl; omega
    · exact ⟨(s.pending_iff d).mpr hp, by rw [occLL_eq_count]; exact List.count_eq_zero.mpr fun hm => (List.nodup_append.mp g.nodup).2.2 d hm d hp rfl⟩
  · rcases g.place hd with ⟨j, hj, hdj⟩ | hp
    · exact ⟨j, g.logDone j d hdj, Nat.le_of_lt hj⟩
    · exact ⟨_, g.logPend d hp, Nat.le_refl _⟩

/-- **C15_drain_waits.**  `Drain` cannot complete while a dispatcher holds a slot: whenever the sink
send is enabled, no map is held and none is left in the channel (all `k` are with the flusher); and
between the send and `Fill` a dispatcher can only block.  Also the slot count never changes. -/
theorem C15_drain_waits (k : Nat) (acts : List CA) (s : CS) (h : crun (cinit k) acts = some s) :
    ((cstep s .send).isSome → s.held = [] ∧ s.chan = [] ∧ s.got.length = s.k) ∧
    (s.needFill = true → ∀ i, cstep s (.take i) = none) ∧
    (s.needFill = false → s.chan.length + s.held.length + s.got.length = s.k) ∧ s.k = k := by
  have inv := cinv_run _ _ _ (cinv_init k) h
  refine ⟨fun hs => ?_, fun hf i => ?_, inv.cnt, inv.slots⟩
  · have hg : s.needFill = false ∧ s.got.length = s.k := by simpa [cstep] using hs
    exact ⟨(inv.drained hg.1 hg.2).2, (inv.drained hg.1 hg.2).1, hg.2⟩
  · simp [cstep, (inv.cnt_fill hf).1, removeNth]

/-- a schedule in which a dispatcher takes a slot *during* a drain and the drain waits for it -/
example :
    (crun (cinit 2) [.take 0, .put 0, .drainOne 0, .take 0, .put 0, .drainOne 0, .send, .fill, .take 1, .put 0]).map
      (fun s => (s.flushes, s.chan, s.log)) = some ([[0, 1]], [[], [2]], [0, 0, 1]) := by decide

/-- `send` is not enabled while dispatch 1 holds its slot -/
example : crun (cinit 2) [.take 0, .put 0, .drainOne 0, .take 0, .send] = none := by decide

variable {α : Type}

def piece (sm : AList String (MM α)) (K : String) : MM α := (lookup K sm).getD {}

private theorem piece_splitMM (kf : Key → String) (m : MM α) (K : String) :
    piece (splitMM kf m) K =
      { counters := (lookup K (splitByKey kf m.counters)).getD [], gauges := (lookup K (splitByKey kf m.gauges)).getD [],
        timers := (lookup K (splitByKey kf m.timers)).getD [], sets := (lookup K (splitByKey kf m.sets)).getD [] } := by
  unfold piece splitMM
  simp only [lookup_map_mk, dedupStr_eq, mem_setUnion, List.mem_append, List.not_mem_nil, false_or]
  split
  · rfl
  next hK =>
    simp only [not_or] at hK
    simp [lookup_eq_none_iff.mpr hK.1.1.1, lookup_eq_none_iff.mpr hK.1.1.2,
      lookup_eq_none_iff.mpr hK.1.2, lookup_eq_none_iff.mpr hK.2]

/-- **C15_split_partition.**  For every key function `kf` (the code uses `tagsMatch tagNames tagsKey`),
every well-formed map `m`, every header key `K` and every series `k`, in all four types: the split map
under `K` holds the entry of `k` exactly when `kf k = K`, unchanged, and nothing otherwise.  Hence each
series is in exactly one split map — the one whose key is derived from its tagsKey — and the union of
the split maps is the input. -/
theorem C15_split_partition (kf : Key → String) (m : MM α) (hm : m.WF) (K : String) (k : Key) :
    lookup k (piece (splitMM kf m) K).counters = (if kf k = K then lookup k m.counters else none) ∧
    lookup k (piece (splitMM kf m) K).gauges   = (if kf k = K then lookup k m.gauges   else none) ∧
    lookup k (piece (splitMM kf m) K).timers   = (if kf k = K then lookup k m.timers   else none) ∧
    lookup k (piece (splitMM kf m) K).sets     = (if kf k = K then lookup k m.sets     else none) := by
  rw [piece_splitMM]
  exact ⟨lookup_splitByKey kf _ hm.1 K k, lookup_splitByKey kf _ hm.2.2.1 K k, lookup_splitByKey kf _ hm.2.1 K k,
    lookup_splitByKey kf _ hm.2.2.2 K k⟩

/-- **C15_split_keys.**  Split maps exist exactly for the header keys of the series present (no request
without series), and every key occurs once. -/
theorem C15_split_keys (kf : Key → String) (m : MM α) (K : String) :
    (K ∈ keys (splitMM kf m) ↔ ∃ k, kf k = K ∧ (k ∈ keys m.counters ∨ k ∈ keys m.gauges ∨ k ∈ keys m.timers ∨ k ∈ keys m.sets)) ∧
    NodupKeys (splitMM kf m) := by
  have hk : keys (splitMM kf m) = setUnion [] (keys (splitByKey kf m.counters) ++ keys (splitByKey kf m.gauges) ++
      keys (splitByKey kf m.timers) ++ keys (splitByKey kf m.sets)) := by
    simp [splitMM, keys, List.map_map, Function.comp_def, dedupStr_eq]
  refine ⟨?_, by unfold NodupKeys; rw [hk]; exact nodup_setUnion _ _ List.nodup_nil⟩
  rw [hk]
  simp only [mem_setUnion, List.not_mem_nil, false_or, List.mem_append, keys_splitByKey, ← exists_or, ← or_and_right, or_assoc]
  exact exists_congr fun k => and_comm

theorem tagsMatch_nil (tk : String) : tagsMatch [] tk = "" := by
  have : matchAny [] = fun _ => false := funext fun _ => rfl
  have hf : ∀ l : List (List Char), l.filter (fun _ => false) = [] := fun l => by simp
  simp only [tagsMatch, List.map_nil, this, hf]
  rfl

/-- **C15_split_by_tags.**  The real `SplitByTags(tagNames)`, both branches (`len(tagNames) == 0` returns
the map itself under `""`): the partition of `C15_split_partition` with `kf k = tagsMatch tagNames k.tagsKey`. -/
theorem C15_split_by_tags (names : List String) (m : MM α) (hm : m.WF) (K : String) (k : Key) :
    lookup k (piece (splitByTags names m) K).counters = (if tagsMatch names k.2 = K then lookup k m.counters else none) ∧
    lookup k (piece (splitByTags names m) K).gauges   = (if tagsMatch names k.2 = K then lookup k m.gauges   else none) ∧
    lookup k (piece (splitByTags names m) K).timers   = (if tagsMatch names k.2 = K then lookup k m.timers   else none) ∧
    lookup k (piece (splitByTags names m) K).sets     = (if tagsMatch names k.2 = K then lookup k m.sets     else none) := by
  unfold splitByTags
  split
  · next hn =>
    subst hn
    simp only [tagsMatch_nil, piece, lookup_cons, lookup_nil]
    by_cases hK : "" = K
    · subst hK; simp
    · simp [hK]
  · exact C15_split_partition _ m hm K k

/-- non-vacuity: two tag names, three series; the series without any of the tags goes to the request
without dynamic headers (`""`), an empty tag name stops the search -/
example :
    let m : MM Int := { counters := [(("a", "env:p,svc:x"), { value := 1, ts := 0, src := "", tags := [] }),
                                     (("b", "x:1"), { value := 2, ts := 0, src := "", tags := [] })],
                        gauges := [(("g", "env:q,s:h"), { value := 7, ts := 0, src := "h", tags := [] })] }
    m.WF ∧ keys (splitByTags ["env:", "svc:"] m) = ["env:p,svc:x", "", "env:q"] ∧
    tagsMatch ["env:", "", "svc:"] "svc:x,env:p" = "env:p" ∧
    dynHeaders "env_name:p,svc:x:y,plain" = [("env-name", "p"), ("svc", "x:y")] ∧
    dynNamesWithColon ["region"] ["env", "", "region", "svc"] = ["env:", "svc:"] := by
  refine ⟨⟨by decide, by decide, by decide, by decide⟩, by decide +kernel, ?_, ?_, by decide⟩
  -- `toList` of a literal is rewritten, not evaluated: the kernel is slow on it
  · simp only [tagsMatch, List.map]
    repeat rw [String.toList_ofList]
    decide
  · simp only [dynHeaders]
    repeat rw [String.toList_ofList]
    decide

/-- **C15_retry.**  For every outcome script and every back-off oracle, `post` on a serialisable
message: the attempts are a prefix of the script; every attempt but the last failed (so there is never
an attempt after a success); the run ends by the first success, by `Stop` (or the end of the window),
by cancellation, or is still waiting for the next outcome; `sent = 1 ⇔` ended by a success;
`dropped = 1 ⇔` ended by `Stop`; `retried` = number of failed attempts, minus one when stopped;
`created = 1`, `invalid = 0`; never both sent and dropped. -/
theorem C15_retry (script : List Outcome) (bo : List Backoff) :
    let r := post true script bo
    (∃ rest, script = r.attempts ++ rest) ∧
    (∀ o ∈ r.attempts.dropLast, o = Outcome.fail) ∧
    (r.fin = .success ↔ r.attempts.getLast? = some Outcome.ok) ∧
    (r.c.sent = if r.fin = .success then 1 else 0) ∧
    (r.c.dropped = if r.fin = .stopped then 1 else 0) ∧
    (r.c.retried = r.attempts.count Outcome.fail - (if r.fin = .stopped then 1 else 0)) ∧
    r.c.created = 1 ∧ r.c.invalid = 0 ∧ r.c.sent + r.c.dropped ≤ 1 ∧
    (r.fin = .stopped → bo[r.attempts.length - 1]? = none ∨ bo[r.attempts.length - 1]? = some .stop) ∧
    (∀ i : Nat, i + 1 < r.attempts.length → bo[i]? = some .next) ∧
    (r.fin = .waiting → r.attempts = script) := by
  obtain ⟨m, tail, bo', rfl, rfl, h⟩ := retry_split script bo
  have hnext : ∀ i, i < m → (List.replicate m Backoff.next ++ bo')[i]? = some .next := fun i hi => by
    rw [List.getElem?_append_left (by simpa using hi)]; simp [hi]
  intro r
  rcases h with rfl | ⟨t, rfl⟩ | ⟨t, rfl, hb⟩ | ⟨t, u, rfl, rfl⟩
  · have hr : r = { attempts := List.replicate m .fail, c := { created := 1, retried := m }, fin := .waiting } := by
      simp only [r, post, if_true, retryLoop_fail_next, retryLoop]; simp
    rw [hr]
    simp
    exact ⟨fun h => (by cases List.eq_of_mem_replicate (List.mem_of_getLast? h)), fun i hi => hnext i (by omega)⟩
  · have hr : r = { attempts := List.replicate m .fail ++ [.ok], c := { created := 1, retried := m, sent := 1 }, fin := .success } := by
      simp only [r, post, if_true, retryLoop_fail_next, retryLoop]; simp
    rw [hr]
    simp [List.count_append]
    exact hnext
  · have hr : r = { attempts := List.replicate m .fail ++ [.fail], c := { created := 1, retried := m, dropped := 1 }, fin := .stopped } := by
      rcases hb with rfl | ⟨u, rfl⟩ <;> simp only [r, post, if_true, retryLoop_fail_next, retryLoop] <;> simp
    rw [hr]
    simp [List.count_append]
    refine ⟨?_, hnext⟩
    rcases hb with rfl | ⟨u, rfl⟩ <;> simp
  · have hr : r = { attempts := List.replicate m .fail ++ [.fail], c := { created := 1, retried := m + 1 }, fin := .cancelled } := by
      simp only [r, post, if_true, retryLoop_fail_next, retryLoop]; simp
    rw [hr]
    simp [List.count_append]
    exact hnext

/-- **C15_retry_invalid.**  A message that cannot be serialised is counted `invalid` and nothing else:
no attempt, not created, not sent, **not dropped**. -/
theorem C15_retry_invalid (script : List Outcome) (bo : List Backoff) :
    (post false script bo).attempts = [] ∧ (post false script bo).c = { invalid := 1 } := by
  simp [post]

/-- **C15_retry_disabled.**  `max-request-elapsed-time = -1`: exactly one attempt; sent or dropped. -/
theorem C15_retry_disabled (script : List Outcome) (o : Outcome) :
    (post true (o :: script) retriesDisabledOracle).attempts = [o] ∧
    (post true (o :: script) retriesDisabledOracle).c.retried = 0 ∧
    ((post true (o :: script) retriesDisabledOracle).c.sent = 1 ∧ o = .ok ∨
     (post true (o :: script) retriesDisabledOracle).c.dropped = 1 ∧ o = .fail) := by
  cases o <;> simp [post, retryLoop, retriesDisabledOracle]

example :
    (post true [.fail, .fail, .ok, .fail] [.next, .next, .next]).c = { created := 1, sent := 1, retried := 2 } ∧
    (post true [.fail, .fail, .ok, .fail] [.next, .next, .next]).attempts = [.fail, .fail, .ok] ∧
    (post true [.fail, .fail, .ok, .fail] [.next, .stop]).c = { created := 1, dropped := 1, retried := 1 } ∧
    (post true [.fail, .fail, .ok, .fail] [.next, .stop]).attempts = [.fail, .fail] := by
  refine ⟨by decide, by decide, by decide, by decide⟩

private theorem piece_mem (sm : AList String (MM α)) (K : String) {k : Key} {v : Counter}
    (h : lookup k (piece sm K).counters = some v) : (K, piece sm K) ∈ sm := by
  unfold piece at h ⊢
  cases hl : lookup K sm with
  | none => rw [hl] at h; cases h
  | some p => exact mem_of_lookup_some hl

private theorem isEmpty_of_counter (p : MM α) {e : Key × Counter} (h : e ∈ p.counters) : p.isEmpty = false := by
  unfold MMap.isEmpty
  cases hc : p.counters with
  | nil => rw [hc] at h; cases h
  | cons _ _ => rfl

private theorem own_piece (names : List String) (m : MM α) (hm : m.WF) (k : Key) (v : Counter)
    (hk : lookup k m.counters = some v) :
    lookup k (piece (splitByTags names m) (tagsMatch names k.2)).counters = some v ∧
    (tagsMatch names k.2, piece (splitByTags names m) (tagsMatch names k.2)) ∈
      (splitByTags names m).filter (fun p => !p.2.isEmpty) := by
  have hl : lookup k (piece (splitByTags names m) (tagsMatch names k.2)).counters = some v := by
    rw [(C15_split_by_tags names m hm _ k).1, if_pos rfl, hk]
  exact ⟨hl, List.mem_filter.mpr ⟨piece_mem _ _ hl, by simp [isEmpty_of_counter _ (mem_of_lookup_some hl)]⟩⟩

/-- **C15_isolation.**  Bodies of one flush are built per split map: a counter series `k` of the merged
flush is in a body that is sent whenever *its own split map* serialises — whatever the other split maps
of the same flush contain (stated for counters; `counterDelivered` is the model's only such predicate).  The unit of
failure is the split map `tagsMatch names k.tagsKey`, nothing larger. -/
theorem C15_isolation (valid : String → Bool) (names : List String) (m : MM α) (hm : m.WF) (k : Key) (v : Counter)
    (hk : lookup k m.counters = some v)
    (hok : mmMarshalable valid (piece (splitByTags names m) (tagsMatch names k.2)) = true) :
    counterDelivered (flushBodies false valid names m) k = true := by
  obtain ⟨hl, hmem⟩ := own_piece names m hm k v hk
  simp only [counterDelivered, flushBodies, List.any_eq_true, List.mem_map]
  exact ⟨(tagsMatch names k.2, some (piece (splitByTags names m) (tagsMatch names k.2))), ⟨_, hmem, by simp [hok]⟩, by simp [hl]⟩

/-- **C15_isolation_fixed.**  With the repair of D8 (`d8Fixed`: leave out only the offending series), a
series whose *own* strings are valid UTF-8 is delivered, whatever other clients put into the same flush. -/
theorem C15_isolation_fixed (valid : String → Bool) (names : List String) (m : MM α) (hm : m.WF) (k : Key) (v : Counter)
    (hk : lookup k m.counters = some v) (hown : strsOK valid k v.src v.tags = true) :
    counterDelivered (flushBodies true valid names m) k = true := by
  obtain ⟨hl, hmem⟩ := own_piece names m hm k v hk
  -- the series passes the filter, so its key is still there (no uniqueness of keys needed)
  have hin : (k, v) ∈ (dropInvalid valid (piece (splitByTags names m) (tagsMatch names k.2))).counters :=
    List.mem_filter.mpr ⟨mem_of_lookup_some hl, hown⟩
  simp only [counterDelivered, flushBodies, List.any_eq_true, List.mem_map]
  exact ⟨(tagsMatch names k.2, some (dropInvalid valid (piece (splitByTags names m) (tagsMatch names k.2)))),
    ⟨_, hmem, by simp [isEmpty_of_counter _ hin]⟩, lookup_isSome_iff_mem_keys.mpr (List.mem_map_of_mem (f := Prod.fst) hin)⟩

/-- **C15_D8_witness.**  The negation on the pinned tree (`flushBodies false` = what the driver runs while `d8Fixed = false`): without dynamic headers the
split map is the whole merged flush, so one series from one client with a string `proto.Marshal`
refuses (here the tagsKey `"BAD"`, standing for `t\xff`) makes the *other* client's valid series
undelivered — the flush produces no body at all (`invalid`, not even `dropped`); the repaired behaviour
delivers it. -/
theorem C15_D8_witness :
    let valid : String → Bool := fun s => s != "BAD"
    let m : MM Int := { counters := [(("a", ""), { value := 1, ts := 0, src := "10.0.0.1", tags := [] }),
                                     (("b", "BAD"), { value := 1, ts := 0, src := "10.0.0.2", tags := ["BAD"] })] }
    m.WF ∧
    counterDelivered (flushBodies false valid [] m) ("a", "") = false ∧
    (flushBodies false valid [] m).map (fun p => (p.1, p.2.isSome)) = [("", false)] ∧
    counterDelivered (flushBodies true valid [] m) ("a", "") = true := by
  refine ⟨⟨by decide, by decide, by decide, by decide⟩, by decide, by decide, by decide⟩

/-- the byte string behind the witness: `t\xff` is not UTF-8 (and `tü` is) -/
example : utf8Valid [0x74, 0xff] = false ∧ utf8Valid [0x74, 0xc3, 0xbc] = true := by decide

end Gsd

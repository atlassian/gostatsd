import Gsd.Proofs.Lemmas.C04
import Gsd.Model.ExactQ
/-!
# C04 — flushing never crashes for any reachable aggregate, configuration or backend

The model (`Model/Aggregator.lean`, `Model/BackendPanics.lean`) gives every index / slice / `make`
expression of `Flush` and of the payload builders a checked semantics whose failure is the outcome
`Res.panic site`.  The theorems are about the **repaired** code (switches
`fx… = true`) and hold for every accepted configuration (`AggCfg.Valid`: every threshold has magnitude
≤ 100; any histogram limit; any mask), every history of merges and flushes (including flushes in which a
persisted series received nothing, and any expiry behaviour of the clock), every `ParseFloat`, every
number type that is an ordered field with floor.

On the pinned tree the statement is **false** at three places; the `example`s at the end are
kernel-checked (`decide`) witnesses on the faithful model (switch `false`):
D4 `Flush` (negative threshold whose rank is `n`), D5 influxdb (`timer-histogram-limit = 0`),
D6 otlp AsHistogram (idle persisted timer).
-/
namespace Gsd
section
variable {α : Type} [Field α] [LinearOrder α] [IsStrictOrderedRing α] [FloorRing α] [HasSqrt α]

/-- **C04_flush_timer_no_panic.**  `Flush` on one timer — *any* values, tags, sampled count, previous
field contents — returns, for every accepted configuration. -/
theorem C04_flush_timer_no_panic (parse : Bytes → Option α) (cfg : AggCfg) (hc : cfg.Valid) (secs : α) (t : ATimer α) :
    (flushTimerWith true parse cfg secs t).isPanic = false := by
  obtain ⟨out, h⟩ := flushTimerWith_total parse cfg hc secs t
  rw [h]; rfl

/-- **C04_flush_no_panic.**  For every accepted configuration and every history of
(merge batch | flush + reset with any set of expired series) from the empty aggregator — in fact from any
aggregate — no `Flush` reaches a panic outcome: the run returns its final state and all flush views. -/
theorem C04_flush_no_panic (parse : Bytes → Option α) (cfg : AggCfg) (hc : cfg.Valid) (ops : List (Op α)) (s : AggSt α) :
    ∃ r, AggSt.runWith true parse cfg s ops = .ok r := by
  induction ops generalizing s with
  | nil => exact ⟨_, rfl⟩
  | cons op ops ih =>
    obtain ⟨r1, h1⟩ := step_total parse cfg hc s op
    obtain ⟨r2, h2⟩ := ih r1.1
    exact ⟨_, by rw [AggSt.runWith, h1, Res.bind_ok, h2]; rfl⟩

/-- **C04_reachable_view.**  What every backend may rely on: in every flush view of every history (of the
pinned *or* the repaired aggregator, whenever the run returns) every percentile name contains `_` and
every histogram is nil, empty (limit 0) or contains the `+Inf` bucket. -/
theorem C04_reachable_view (fx : Bool) (parse : Bytes → Option α) (cfg : AggCfg) (ops : List (Op α))
    (r : AggSt α × List (AggSt α)) (h : AggSt.runWith fx parse cfg [] ops = .ok r) :
    ∀ v ∈ r.2, ∀ e ∈ v, ViewOK e.2 :=
  (run_inv fx parse cfg ops [] (by simp) r h).2

/-- **C04_backend_no_panic.**  The payload builder of every bundled backend (every variant: newrelic flush
types, otlp conversions; any mask) returns on every reachable flush view. -/
theorem C04_backend_no_panic (b : Backend) (fx : Bool) (parse : Bytes → Option α) (cfg : AggCfg) (m : Mask)
    (ops : List (Op α)) (r : AggSt α × List (AggSt α)) (h : AggSt.runWith fx parse cfg [] ops = .ok r) :
    ∀ v ∈ r.2, backendFlushWith true true b m v = .ok () :=
  fun v hv => backendFlush_ok b m v (C04_reachable_view fx parse cfg ops r h v hv)

theorem C04_backend_no_panic_influxdb (fx : Bool) (parse : Bytes → Option α) (cfg : AggCfg) (m : Mask)
    (ops : List (Op α)) (r : AggSt α × List (AggSt α)) (h : AggSt.runWith fx parse cfg [] ops = .ok r) :
    ∀ v ∈ r.2, backendFlushWith true true .influxdb m v = .ok () :=
  C04_backend_no_panic .influxdb fx parse cfg m ops r h

theorem C04_backend_no_panic_otlp (asGauge : Bool) (fx : Bool) (parse : Bytes → Option α) (cfg : AggCfg) (m : Mask)
    (ops : List (Op α)) (r : AggSt α × List (AggSt α)) (h : AggSt.runWith fx parse cfg [] ops = .ok r) :
    ∀ v ∈ r.2, backendFlushWith true true (.otlp asGauge) m v = .ok () :=
  C04_backend_no_panic (.otlp asGauge) fx parse cfg m ops r h

theorem C04_backend_no_panic_newrelic (metricsApi : Bool) (fx : Bool) (parse : Bytes → Option α) (cfg : AggCfg) (m : Mask)
    (ops : List (Op α)) (r : AggSt α × List (AggSt α)) (h : AggSt.runWith fx parse cfg [] ops = .ok r) :
    ∀ v ∈ r.2, backendFlushWith true true (.newrelic metricsApi) m v = .ok () :=
  C04_backend_no_panic (.newrelic metricsApi) fx parse cfg m ops r h

theorem C04_backend_no_panic_graphite (fx : Bool) (parse : Bytes → Option α) (cfg : AggCfg) (m : Mask)
    (ops : List (Op α)) (r : AggSt α × List (AggSt α)) (h : AggSt.runWith fx parse cfg [] ops = .ok r) :
    ∀ v ∈ r.2, backendFlushWith true true .graphite m v = .ok () :=
  C04_backend_no_panic .graphite fx parse cfg m ops r h

theorem C04_backend_no_panic_datadog (fx : Bool) (parse : Bytes → Option α) (cfg : AggCfg) (m : Mask)
    (ops : List (Op α)) (r : AggSt α × List (AggSt α)) (h : AggSt.runWith fx parse cfg [] ops = .ok r) :
    ∀ v ∈ r.2, backendFlushWith true true .datadog m v = .ok () :=
  C04_backend_no_panic .datadog fx parse cfg m ops r h

theorem C04_backend_no_panic_statsdaemon (fx : Bool) (parse : Bytes → Option α) (cfg : AggCfg) (m : Mask)
    (ops : List (Op α)) (r : AggSt α × List (AggSt α)) (h : AggSt.runWith fx parse cfg [] ops = .ok r) :
    ∀ v ∈ r.2, backendFlushWith true true .statsdaemon m v = .ok () :=
  C04_backend_no_panic .statsdaemon fx parse cfg m ops r h

theorem C04_backend_no_panic_stdout (fx : Bool) (parse : Bytes → Option α) (cfg : AggCfg) (m : Mask)
    (ops : List (Op α)) (r : AggSt α × List (AggSt α)) (h : AggSt.runWith fx parse cfg [] ops = .ok r) :
    ∀ v ∈ r.2, backendFlushWith true true .stdout m v = .ok () :=
  C04_backend_no_panic .stdout fx parse cfg m ops r h

theorem C04_backend_no_panic_cloudwatch (fx : Bool) (parse : Bytes → Option α) (cfg : AggCfg) (m : Mask)
    (ops : List (Op α)) (r : AggSt α × List (AggSt α)) (h : AggSt.runWith fx parse cfg [] ops = .ok r) :
    ∀ v ∈ r.2, backendFlushWith true true .cloudwatch m v = .ok () :=
  C04_backend_no_panic .cloudwatch fx parse cfg m ops r h

/-- **C04_pipeline_no_panic.**  The whole statement in one: for every accepted configuration, every backend
and every history, the interleaving flush → payload building → reset never reaches a panic outcome
(all three repairs in place). -/
theorem C04_pipeline_no_panic (parse : Bytes → Option α) (cfg : AggCfg) (hc : cfg.Valid) (b : Backend)
    (ops : List (Op α)) (s : AggSt α) (hs : ∀ e ∈ s, StateOK e.2) :
    ∃ views, pipelineWith true true true parse cfg b s ops = .ok views := by
  obtain ⟨r, h⟩ := C04_flush_no_panic parse cfg hc ops s
  exact ⟨r.2, pipelineWith_of_run _ _ _ parse cfg b ops s r h fun v hv =>
    backendFlush_ok b cfg.mask v ((run_inv true parse cfg ops s hs r h).2 v hv)⟩

end

/-! ### satisfiable hypotheses, and the three defects of the pinned tree as witnesses (`decide`, on exact fractions `Q`) -/

def wTags : List Bytes := [asciiBytes "gsd_histogram:1_2"]
def wParse (b : Bytes) : Option Q :=
  if b = asciiBytes "1" then some 1 else if b = asciiBytes "2" then some 2 else none
def h1 : List (Op Q) := [.merge [("t", [], [1, 2], 2)], .flush 1 []]
def h2 : List (Op Q) := [.merge [("t", wTags, [1], 1)], .flush 1 []]
def h3 : List (Op Q) := [.merge [("t", [], [1], 1)], .flush 1 [], .flush 1 []]

/-- the accepted configurations used below -/
example : (AggCfg.Valid { pcts := [-100] }) ∧ (AggCfg.Valid { pcts := [-90] }) ∧ (AggCfg.Valid { pcts := [90], limit := 0 }) := by
  unfold AggCfg.Valid; decide

/-- **D4** (pinned `Flush`): thresholds {−100} and {−90} with two values → `cumulativeValues[-1]` -/
example : (AggSt.runWith false wParse { pcts := [-100] } [] h1).isPanic = true := by decide
example : (AggSt.runWith false wParse { pcts := [-90] } [] h1).isPanic = true := by decide
example : (AggSt.runWith true wParse { pcts := [-100, -90] } [] h1).isOk = true := by decide

/-- **D5** (pinned influxdb `addHistogramTimer`): `timer-histogram-limit = 0` and a timer tagged
`gsd_histogram:1_2` → `buf[:len(buf)-1]` on the empty string -/
example : (pipelineWith true false true wParse { pcts := [90], limit := 0 } .influxdb [] h2).isPanic = true := by decide +kernel
example : (pipelineWith true true true wParse { pcts := [90], limit := 0 } .influxdb [] h2).isOk = true := by decide
/-- with a positive limit the pinned builder is fine -/
example : (pipelineWith true false true wParse { pcts := [90], limit := 5 } .influxdb [] h2).isOk = true := by decide +kernel

/-- **D6** (pinned otlp `WithHistogramDataPointStatistics`, conversion AsHistogram): a persisted timer that
received nothing for one interval → `values[0]` of an empty slice -/
example : (pipelineWith true true false wParse { pcts := [90] } (.otlp false) [] h3).isPanic = true := by decide
example : (pipelineWith true true true wParse { pcts := [90] } (.otlp false) [] h3).isOk = true := by decide
/-- conversion AsGauge is not affected -/
example : (pipelineWith true true false wParse { pcts := [90] } (.otlp true) [] h3).isOk = true := by decide

/-- hypothesis of `C04_backend_no_panic`: a run that returns, with a non-trivial view (histogram with two
finite buckets and `+Inf`; new relic's percentile names) -/
example : (AggSt.runWith false wParse { pcts := [90, -50], limit := 5 } [] (h2 ++ h1)).isOk = true := by decide

end Gsd

import Gsd.Proofs.Lemmas.LexerRun
import Gsd.Proofs.Lemmas.Datagram
import Gsd.Model.Ingest
/-!
# C03 — no network input can crash ingestion

The lexer model evaluates every slice / index expression of lexer.go through checked primitives on the ghost
cursor (`sliceOk`, `indexOk`: `panic` exactly when Go would), so "`run … ≠ .panic`" is a real statement about bounds.
-/
namespace Gsd
open Lexer Datagram

section
variable {F : Type} [FloatLike F]

/-- **C03_metric_lines_no_panic** (pinned tree included).  A line that does not begin with `_` never
reaches an out-of-bounds slice or index: all of `lexKeySep`'s in-place writes and deletions, the name and
value slices, `seekUntil` and `seekDelimited` stay inside the line — for all bytes, NUL included. -/
theorem C03_metric_lines_no_panic (cfg : Cfg) (pf : Bytes → Option F) (ns : Bytes) (cap : Nat) (input : Bytes)
    (hlt : input.length < 4294967296) (hcap : input.length ≤ cap) (hh : input.head? ≠ some 95) :
    run cfg pf ns cap input ≠ .panic :=
  run_ne_panic cfg pf ns cap input hlt hcap (.inr hh)

/-- **C03_lexer_no_panic** (repaired code).  With the length test of `lexEventBody` done in 64 bits, no byte
string whatsoever — NUL bytes, event headers declaring lengths near 2³¹, 2³² or 2⁶⁴, lines up to 2³²−1
bytes — makes the lexer index or slice out of bounds. -/
theorem C03_lexer_no_panic (cfg : Cfg) (hfix : cfg.wideLenCheck = true) (pf : Bytes → Option F) (ns : Bytes) (cap : Nat)
    (input : Bytes) (hlt : input.length < 4294967296) (hcap : input.length ≤ cap) :
    run cfg pf ns cap input ≠ .panic :=
  run_ne_panic cfg pf ns cap input hlt hcap (.inl hfix)

/-- `_e{5,4294967290}:abcde|xyz` -/
def d1line : Bytes := [95, 101, 123, 53, 44, 52, 50, 57, 52, 57, 54, 55, 50, 57, 48, 125, 58, 97, 98, 99, 100, 101, 124, 120, 121, 122]
/-- `_e{100,4294967195}:ab` -/
def d1line2 : Bytes := [95, 101, 123, 49, 48, 48, 44, 52, 50, 57, 52, 57, 54, 55, 49, 57, 53, 125, 58, 97, 98]

/-- **C03_lexer_panics_on_pinned_tree** (negative witness, D1).  With the 32-bit length test the declared
lengths 5 + 1 + 4294967290 wrap to 0, the test passes, and `l.input[l.pos : l.pos+l.eventTextLen]` is
`[23:17]` — Go panics "slice bounds out of range"; the second line indexes `l.input[119]` of 21 bytes.
The repaired test rejects both with `errNotEnoughData`. -/
theorem C03_lexer_panics_on_pinned_tree :
    (run { checkRate := false, wideLenCheck := false } (fun _ => (none : Option UInt64)) [] 26 d1line = .panic) ∧
    (run { checkRate := false, wideLenCheck := false } (fun _ => (none : Option UInt64)) [] 21 d1line2 = .panic) ∧
    (run { checkRate := false, wideLenCheck := true } (fun _ => (none : Option UInt64)) [] 26 d1line = .reject .notEnough) ∧
    (run { checkRate := false, wideLenCheck := true } (fun _ => (none : Option UInt64)) [] 21 d1line2 = .reject .notEnough) := by
  decide

/-- **C03_line_total.**  Every line yields exactly one of: a metric, an event, a counted error (and, on the
pinned tree only, a panic): the three cases are exhaustive once `≠ .panic` and mutually exclusive. -/
theorem C03_line_total (cfg : Cfg) (hfix : cfg.wideLenCheck = true) (pf : Bytes → Option F) (ns : Bytes) (cap : Nat)
    (input : Bytes) (hlt : input.length < 4294967296) (hcap : input.length ≤ cap) :
    let o := run cfg pf ns cap input
    ((∃ m, o = .metric m) ∧ (¬ ∃ e, o = .event e) ∧ (¬ ∃ e, o = .reject e)) ∨
    ((¬ ∃ m, o = .metric m) ∧ (∃ e, o = .event e) ∧ (¬ ∃ e, o = .reject e)) ∨
    ((¬ ∃ m, o = .metric m) ∧ (¬ ∃ e, o = .event e) ∧ (∃ e, o = .reject e)) := by
  intro o
  have hnp : o ≠ .panic := C03_lexer_no_panic cfg hfix pf ns cap input hlt hcap
  cases ho : o with
  | metric m => left; exact ⟨⟨m, rfl⟩, by simp, by simp⟩
  | event e => right; left; exact ⟨by simp, ⟨e, rfl⟩, by simp⟩
  | reject e => right; right; exact ⟨by simp, by simp, ⟨e, rfl⟩⟩
  | panic => exact absurd ho hnp

/-- **C03_datagram_no_panic** and **C03_bad_lines_counted** (repaired code).  For every datagram (any bytes)
in a buffer of any capacity ≥ its length: no line panics, and every line of the datagram is accounted for
exactly once — #metrics + #events + #bad lines = #lines. -/
theorem C03_bad_lines_counted (cfg : Cfg) (hfix : cfg.wideLenCheck = true) (pf : Bytes → Option F) (c : Config)
    (bufCap : Nat) (msg : Bytes) (hlt : msg.length < 4294967296) (hcap : msg.length ≤ bufCap) :
    let items := handle cfg pf c bufCap msg
    panicked items = false ∧
    (metricsOf items).length + (eventsOf items).length + badCount items = (splitLines msg).length := by
  intro items
  have hno : ∀ i ∈ items, i ≠ Item.panic := by
    intro i hi
    simp only [items, handle, List.mem_map] at hi
    obtain ⟨⟨l, cp⟩, hmem, rfl⟩ := hi
    have htot := splitLinesAux_total msg []
    obtain ⟨hcp, hlen⟩ := mem_withCaps bufCap msg.length hcap (splitLines msg) 0
      (by simp only [splitLines, List.length_nil] at htot ⊢; omega) (l, cp) hmem
    have := C03_lexer_no_panic cfg hfix pf c.ns cp l (by simp only at hlen; omega) hcp
    simp only [lexAlone]
    cases hr : run cfg pf c.ns cp l with
    | panic => exact absurd hr this
    | metric _ | event _ | reject _ => simp [itemOf]
  have hlen : items.length = (splitLines msg).length := by
    simp only [items, handle, List.length_map]
    have := congrArg List.length (withCaps_fst bufCap (splitLines msg) 0)
    simpa using this
  rw [← hlen]
  exact count_items items hno

end

open Ingest in
/-- **C03_http_total.**  Whatever `ReadAll`, zlib, lz4 and `proto.Unmarshal` answer and whatever the
`Content-Encoding` header says, the handler writes exactly one status, which is 202, 400 or 500; it
dispatches to the pipeline iff the status is 202; 500 iff the body could not be read; an unknown encoding
is 400 once the body has been read (`readBody` reads first); and the outcome is a function of those library answers
only (that is how `handler` is written). -/
theorem C03_http_total {Body Msg : Type} (l : Libs Body Msg) (e : Enc) :
    let r := handler l e
    (r.1 = 202 ∨ r.1 = 400 ∨ r.1 = 500) ∧
    (r.2.isSome ↔ r.1 = 202) ∧
    (r.1 = 500 ↔ l.readAll = none) ∧
    (e = .other → l.readAll ≠ none → r.1 = 400) := by
  intro r
  simp only [r, handler, readBody]
  cases l.readAll with
  | none => simp
  | some b =>
    cases e with
    | deflate => cases hz : l.zlib b with
      | none => simp [hz]
      | some b' => cases hu : l.unmarshal b' <;> simp [hz, hu]
    | lz4 => cases hz : l.lz4 b with
      | none => simp [hz]
      | some b' => cases hu : l.unmarshal b' <;> simp [hz, hu]
    | identity => cases hu : l.unmarshal b <;> simp [hu]
    | other => simp

open Ingest in
/-- non-vacuity of `C03_http_total` -/
example :
    let l : Libs Nat Nat := { readAll := some 7, zlib := fun b => some (b + 1), lz4 := fun _ => none, unmarshal := fun b => if b = 8 then some 99 else none }
    handler l .deflate = (202, some 99) ∧ handler l .other = (400, none) ∧ handler l .lz4 = (400, none) ∧ handler l .identity = (400, none) := by
  decide

end Gsd

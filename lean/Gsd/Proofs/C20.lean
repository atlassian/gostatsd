import Gsd.Proofs.Lemmas.Lambda
/-!
# C20 — the Lambda extension asks for the next invocation only after flushing

Every statement is about **all** interleavings of the heartbeat, the
telemetry server, the forwarder's flush goroutines, the runtime and the function's datapoints:
`run (init cap) acts = some s` for an arbitrary action list `acts`, any channel capacity `cap`, any
number of invocations, datapoints, upstream latencies and outcomes (`postEnd` covers success and
give-up alike), and any amount of other telemetry records.

Environment hypothesis (built into `run`, `Gsd.Lambda.envOK`): the runtime emits at most one
`platform.runtimeDone` record per invocation and only for an invocation it has already handed to the
extension's `/next` (`doneEmitted ≤ nextResp` after every step).  `runFree` drops it; the last example
shows the property is false without it.
-/
namespace Gsd
open Gsd.Lambda

/-- **C20_next_after_flush.**  In every reachable state:
(1) `#next ≤ #waits ≤ #notifies ≤ #completed delivery attempts + #empty flushes`;
(2) for every `j` smaller than the number of `/next` requests made so far, flush `j` exists and its delivery
attempt is over (posted with any outcome, or empty) — flush 0 is the heartbeat's initial flush and flush
`k ≥ 1` is the one triggered by the `k`-th runtimeDone record, i.e. by invocation `k`; so the
`(k+1)`-th `/next` is preceded by the completion of invocation `k`'s flush, for every `k`;
(3) when `/next` is being requested no stale notification is left in the channel. -/
theorem C20_next_after_flush {cap : Int} {acts : List Act} {s : St} (h : run (init cap) acts = some s) :
    (s.nextReq ≤ s.waits ∧ s.waits ≤ s.notifies ∧ s.notifies ≤ s.attempts + s.empties) ∧
    (∀ j, j < s.nextReq → ∃ f, s.flushes[j]? = some f ∧ f.st.over = true ∧
        f.origin = (if j = 0 then none else some j)) ∧
    (s.pc = .inNext → s.tokens = 0) := by
  have inv := inv_run (inv_init cap) h
  have ⟨c, l⟩ := inv
  refine ⟨⟨?_, ?_, ?_⟩, ?_, ?_⟩
  · have := c.wait; omega
  · have := c.tok; have := c.tokNonneg; omega
  · rw [l.notif, l.over]
    unfold notifiedCount overCount
    apply List.countP_mono_left
    intro f _ hf
    simp only [decide_eq_true_eq] at hf
    rw [hf]; rfl
  · intro j hj
    obtain ⟨f, h1, h2⟩ := l.pos.ord j hj
    exact ⟨f, h1, h2, l.pos.orig j f h1⟩
  · exact fun hpc => (inv.caught_up (.inr hpc)).1

/-- **C20_initial_flush.**  The first `/next` is preceded by the heartbeat's initial flush: as soon as one
`/next` request exists, flush 0 exists, was started by the heartbeat (not by telemetry) and is over. -/
theorem C20_initial_flush {cap : Int} {acts : List Act} {s : St} (h : run (init cap) acts = some s)
    (hn : 1 ≤ s.nextReq) :
    s.initFlushed = true ∧ ∃ f, s.flushes[0]? = some f ∧ f.origin = none ∧ f.st.over = true :=
  (inv_run (inv_init cap) h).initial_flush hn

/-- **C20_startup_data.**  "An initial flush precedes the first request", with the data it is there for: a
datapoint accepted during start-up — before the heartbeat's initial flush, at any point of any schedule
`pre` — is, as soon as one `/next` request exists, in the body of flush 0, which was started by the heartbeat
and whose delivery attempt is over.  (Replacing the initial `Flush()` by a bare notification keeps every count
of `C20_next_after_flush` intact and breaks exactly this.) -/
theorem C20_startup_data {cap : Int} {pre post : List Act} {s0 s1 s : St} (dp : Nat)
    (h0 : run (init cap) pre = some s0) (hearly : s0.initFlushed = false)
    (hacc : step s0 (.accept dp) = some s1) (h1 : run s1 post = some s) (hn : 1 ≤ s.nextReq) :
    ∃ f, s.flushes[0]? = some f ∧ f.origin = none ∧ f.st.over = true ∧ dp ∈ f.body := by
  have inv0 := inv_run (inv_init cap) h0
  -- `accept` leaves the environment hypothesis alone
  have henv1 : envOK s1 = true := by cases Step.of_step hacc; exact decide_eq_true inv0.ctl.env
  have inv1 := inv_step inv0 hacc henv1
  have hE1 : EarlyIn s1 dp := by cases Step.of_step hacc; exact Or.inl ⟨hearly, by simp⟩
  have hE := earlyIn_run dp inv1 h1 hE1
  obtain ⟨hflushed, f, hf, horig, hover⟩ := (inv_run inv1 h1).initial_flush hn
  rcases hE with ⟨hnot, _⟩ | ⟨f', hf', hb⟩
  · rw [hflushed] at hnot; cases hnot
  · rw [hf] at hf'; cases hf'
    exact ⟨f, hf, horig, hover, hb⟩

/-- non-vacuity: a datapoint accepted inside the start-up window is posted by the initial flush before the
first `/next` -/
example :
    (run (init codeCap) [.register, .subscribe, .accept 5, .windowElapsed, .hbInitFlush, .postBegin 0, .postEnd 0,
        .notify 0, .hbWait, .hbNext]).map (fun s => (s.nextReq, s.flushes.map (fun f => (f.origin, f.body, f.st.over))))
      = some (1, [(none, [5], true)]) := by decide

/-- **C20_data_before_freeze.**  Every datapoint accepted before invocation `k`'s runtimeDone record was
emitted (`e < k`) is, by the time the `(k+1)`-th `/next` has been requested, in the body of a flush whose
delivery attempt is over. -/
theorem C20_data_before_freeze {cap : Int} {acts : List Act} {s : St} (h : run (init cap) acts = some s)
    (dp e k : Nat) (hacc : (dp, e) ∈ s.accepted) (hek : e < k) (hk : k < s.nextReq) :
    ∃ (j : Nat) (f : Flush), s.flushes[j]? = some f ∧ dp ∈ f.body ∧ f.st.over = true := by
  have inv := inv_run (inv_init cap) h
  obtain ⟨c, l⟩ := inv
  -- flush k exists, so at least k runtimeDone records have been processed
  obtain ⟨fk, hfk, _⟩ := l.pos.ord k hk
  have hlenk : k < s.flushes.length := (List.getElem?_eq_some_iff.mp hfk).1
  have hlen := l.len
  have hP : k ≤ s.doneProcessed := by
    split at hlen <;> omega
  rcases l.pos.d1 (dp, e) hacc with hb | ⟨j, f, h1, h2⟩
  · have := l.d2 (dp, e) hacc hb
    omega
  · have hj := l.pos.d3 (dp, e) hacc j f h1 h2
    obtain ⟨f', h1', h2'⟩ := l.pos.ord j (by omega)
    rw [h1] at h1'; cases h1'
    exact ⟨j, f, h1, h2, h2'⟩

/-- **C20_init_error.**  A server that exits inside the start-up window is reported to the runtime's
init-error endpoint and the extension never asks for an invocation: once `failed`, no `/next` request
exists and the heartbeat cannot start (`windowElapsed`, `hbInitFlush`, `hbWait`, `hbNext` are disabled); in
`initFailed` the manager can `POST /init/error`, it does so at most once, and an init-error request is made only
after such a failure. -/
theorem C20_init_error {cap : Int} {acts : List Act} {s : St} (h : run (init cap) acts = some s) :
    (s.failed = true → s.nextReq = 0 ∧ (s.pc = .initFailed ∨ s.pc = .initErrSent)) ∧
    (s.pc = .initFailed → ∃ s', step s .initError = some s' ∧ s'.initErrors = 1 ∧ s'.pc = .initErrSent) ∧
    (s.failed = true → ∀ a, a = .hbInitFlush ∨ a = .hbWait ∨ a = .hbNext ∨ a = .windowElapsed → step s a = none) ∧
    s.initErrors ≤ 1 ∧ (s.initErrors = 1 → s.failed = true) := by
  have inv := inv_run (inv_init cap) h
  obtain ⟨c, l⟩ := inv
  refine ⟨?_, ?_, ?_, ?_, ?_⟩
  · intro hf
    have hp := c.fail.mp hf
    refine ⟨?_, hp⟩
    rcases hp with hp | hp <;> exact c.early (by rw [hp]; rfl)
  · intro hp
    refine ⟨{ s with pc := .initErrSent, initErrors := s.initErrors + 1 }, by simp [step, hp], ?_, rfl⟩
    have := c.ierr
    rw [hp] at this
    simp [this]
  · intro hf a ha
    have hp := c.fail.mp hf
    rcases ha with rfl | rfl | rfl | rfl <;> rcases hp with hp | hp <;> simp [step, hp]
  · have := c.ierr; split at this <;> omega
  · intro h1
    have := c.ierr
    split at this
    · next hp => exact c.fail.mpr (Or.inr hp)
    · omega

/-- **C20_notify_never_blocks.**  The capacity the code gives `flushChan` (regenerated from the source:
`Gsd.Facts.flushChanCap`) is enough: in every reachable state a flush whose delivery attempt is over can
notify at once — the forwarder is never left blocked in `NotifyFlush` holding a request slot — because at
most one notification is ever outstanding. -/
theorem C20_notify_never_blocks {acts : List Act} {s : St} (h : run (init codeCap) acts = some s) :
    s.tokens ≤ 1 ∧
    ∀ j f, s.flushes[j]? = some f → f.st = .completed → ∃ s', step s (.notify j) = some s' :=
  (inv_run (inv_init codeCap) h).notify_enabled (by rw [run_cap h]; decide)

example :
    (run (init codeCap) [.register, .subscribe, .windowElapsed, .hbInitFlush, .skip 0, .notify 0, .hbWait, .hbNext,
        .rtInvoke, .accept 7, .otherRecord, .rtDone, .teleFlush, .postBegin 1]).bind (fun s => step s .hbWait) = none := by
  decide

example :
    (run (init codeCap) [.register, .subscribe, .windowElapsed, .hbInitFlush, .skip 0, .notify 0, .hbWait, .hbNext,
        .rtInvoke, .accept 7, .otherRecord, .rtDone, .teleFlush, .postBegin 1, .postEnd 1, .notify 1, .hbWait, .hbNext,
        .rtShutdown]).map (fun s => (s.pc, [s.nextReq, s.waits, s.notifies, s.attempts, s.empties], s.tokens))
      = some (Pc.stopped, [2, 2, 2, 1, 1], 0) := by decide

example :
    (run (init codeCap) [.register, .subscribe, .serverFail, .initError]).map (fun s => (s.pc, s.initErrors, s.nextReq))
      = some ((Pc.initErrSent, 1, 0) : Pc × Nat × Nat) := by decide
example : (run (init codeCap) [.register, .subscribe, .serverFail]).bind (fun s => step s .windowElapsed) = none := by decide

/-- **the environment hypothesis is needed**: with two runtimeDone records for one invocation the second
notification is left in the channel, and the `/next` after the following invocation is requested while that
invocation's flush (number 3, carrying datapoint 9) has not even started its post. -/
example :
    (runFree (init codeCap) [.register, .subscribe, .windowElapsed, .hbInitFlush, .skip 0, .notify 0, .hbWait, .hbNext,
        .rtInvoke, .rtDone, .rtDone, .teleFlush, .teleFlush, .skip 1, .notify 1, .hbWait, .hbNext, .rtInvoke,
        .skip 2, .notify 2, .accept 9, .rtDone, .teleFlush, .hbWait, .hbNext]).map
          (fun s => (s.nextReq, s.flushes.map (·.st))) = some (3, [.notified, .notified, .notified, .created]) := by decide

end Gsd

import Gsd.Proofs.Lemmas.LexerRun
/-!
# C02 — the line lexer accepts exactly the documented grammar

Everything is quantified over every `ParseFloat` (`pf`), every namespace, every capacity `cap ≥` the line length
(`hcap`), both settings of the repair switches (`cfg`), and every abstract float type `F` with `isNaN` / `rateOk` / `one`.

The slice handed to `Lexer.Run` is shorter than 2³² bytes (`uint32(len(input))` in `Run`; datagrams are
≤ 65535 bytes): hypothesis `hlt`.

In the theorems about lines of a stated shape `raw` is the name and `v` the value text.  That a line has that shape
means that the name does not begin with `_` (`hh`: that byte sends the line to the event chain) and that neither holds
a NUL (`h0`, `hv0`: `next()` returns NUL at the end of the input, and the scanners stop there with their own error).
-/
namespace Gsd
open Lexer

section
variable {F : Type} [FloatLike F]

/-- **C02_accepts_grammar.**  Every well-formed line `name:value|type|fields…` of the documented grammar
is accepted, with exactly the fields the grammar specifies: normalised, namespace-prefixed name;
`ParseFloat` of the value (string value for sets); type; the last `@` rate (1 when absent); all
non-empty tags in order; unknown fields ignored — the fields in any order and number. -/
theorem C02_accepts_grammar (cfg : Cfg) (pf : Bytes → Option F) (ns : Bytes) (cap : Nat) (ml : MetricLine)
    (hwf : ml.WF cfg pf) (hlt : ml.render.length < 4294967296) (hcap : ml.render.length ≤ cap) :
    run cfg pf ns cap ml.render = .metric (ml.spec pf ns) := by
  obtain ⟨h0, h58, hh, hn, hv0, hvb, hval, hfs⟩ := hwf
  have e : ml.render = ml.name ++ 58 :: (ml.value ++ 124 :: (ml.ty.bytes ++ (renderFields ml.fields ++ []))) := by
    rw [List.append_nil]; rfl
  rw [e] at hlt hcap ⊢
  rw [run_rendered cfg pf ns cap _ _ _ _ [] hh h0 h58 hv0 hvb hfs (.inl rfl) hlt hcap, if_neg hn]
  simp only [attrs, Res.bind_ok, List.reverse_reverse, ofMetricRes, finishMetric, MetricLine.spec]
  by_cases hs : ml.ty = .s
  · simp [hs, TypeSp.type]
  · obtain ⟨v, hv, hnan⟩ := hval hs
    have : ml.ty.type ≠ .set := fun h => hs (TypeSp.type_eq_set.1 h)
    simp [hs, this, hv, hnan]

/-- non-vacuity of `C02_accepts_grammar`: `a/b c:1|ms|#x,,y:z|@0.5|T0|#w` in namespace `ns` -/
example :
    let pf : Bytes → Option UInt64 := fun b => if b = [49] then some 0x3ff0000000000000 else if b = [48, 46, 53] then some 0x3fe0000000000000 else none
    let ml : MetricLine := { name := [97, 47, 98, 32, 99], value := [49], ty := .ms, fields := [.tags [[120], [], [121, 58, 122]], .rate [48, 46, 53], .other [84, 48], .tags [[119]]] }
    ml.WF Cfg.repaired pf ∧ ml.spec pf [110, 115] =
      { name := [110, 115, 46, 97, 45, 98, 95, 99], type := .timer, value := some 0x3ff0000000000000, svalue := [],
        rate := 0x3fe0000000000000, tags := [[120], [121, 58, 122], [119]] } := by
  refine ⟨⟨by decide, by decide, by decide, by decide, by decide, by decide, fun _ => ⟨0x3ff0000000000000, by decide, by decide⟩, ?_⟩, by decide⟩
  intro f hf
  simp only [List.mem_cons, List.not_mem_nil, or_false] at hf
  rcases hf with rfl | rfl | rfl | rfl
  · exact (by decide : ∀ t ∈ [[120], [], [121, 58, 122]], (44 : UInt8) ∉ t ∧ (124 : UInt8) ∉ t ∧ (0 : UInt8) ∉ t)
  · exact ⟨by decide, 0x3fe0000000000000, by decide, fun _ => by decide⟩
  · exact ⟨by decide, 84, [48], rfl, by decide⟩
  · exact (by decide : ∀ t ∈ [[119]], (44 : UInt8) ∉ t ∧ (124 : UInt8) ∉ t ∧ (0 : UInt8) ∉ t)

/-- **C02_normalise.**  Whenever a metric is accepted (any bytes, NUL included) the line splits at its
first `:` and the metric's name is the namespace, a dot, and the text before that `:` with `/`→`-`,
blank/tab→`_`, `[A-Za-z0-9._-]` kept and every other byte deleted (`norm`); no namespace, no prefix. -/
theorem C02_normalise (cfg : Cfg) (pf : Bytes → Option F) (ns : Bytes) (cap : Nat) (input : Bytes) (m : Metric F)
    (hlt : input.length < 4294967296) (hcap : input.length ≤ cap) (h : run cfg pf ns cap input = .metric m) :
    ∃ raw rest, input = raw ++ 58 :: rest ∧ (58 : UInt8) ∉ raw ∧
      m.name = (if ns = [] then norm raw else ns ++ 46 :: norm raw) ∧
      norm raw = raw.filterMap normByte := by
  obtain ⟨_, raw, v, sp, r3, rate, tagsRev, e, _, h58, _, _, _, _, hname, _⟩ := run_metric_inv hlt hcap h
  exact ⟨raw, _, e, h58, by rw [hname]; rfl, rfl⟩

example : normByte 47 = some 45 ∧ normByte 32 = some 95 ∧ normByte 9 = some 95 ∧ normByte 65 = some 65 ∧
    normByte 122 = some 122 ∧ normByte 48 = some 48 ∧ normByte 46 = some 46 ∧ normByte 45 = some 45 ∧
    normByte 95 = some 95 ∧ normByte 36 = none ∧ normByte 124 = none ∧ normByte 200 = none := by decide

/-- **C02_rej_empty_name.**  A line whose text before the first `:` keeps no character after
normalisation (empty, or only characters outside `[A-Za-z0-9._/ \t-]`, NUL apart) is rejected with `errEmptyKey`. -/
theorem C02_rej_empty_name (cfg : Cfg) (pf : Bytes → Option F) (ns : Bytes) (cap : Nat) (raw rest : Bytes)
    (h0 : (0 : UInt8) ∉ raw) (h58 : (58 : UInt8) ∉ raw) (hn : norm raw = [])
    (hlt : (raw ++ 58 :: rest).length < 4294967296) (hcap : (raw ++ 58 :: rest).length ≤ cap) :
    run cfg pf ns cap (raw ++ 58 :: rest) = .reject .emptyKey := by
  have hh : raw.head? ≠ some 95 := fun h => by
    obtain ⟨t, rfl⟩ := List.head?_eq_some_iff.1 h
    simp [norm_cons, show normByte 95 = some 95 by decide] at hn
  rw [run_named cfg pf ns cap raw rest hh h0 h58 hlt hcap, if_pos hn]; rfl

/-- **C02_rej_bad_type.**  `name:value|` followed by anything that is not one of the five type
spellings `c g ms h s` is rejected (with `errInvalidType`, or `errEmptyKey` when the name is empty too). -/
theorem C02_rej_bad_type (cfg : Cfg) (pf : Bytes → Option F) (ns : Bytes) (cap : Nat) (raw v r2 : Bytes)
    (hh : raw.head? ≠ some 95) (h0 : (0 : UInt8) ∉ raw) (h58 : (58 : UInt8) ∉ raw) (hv0 : (0 : UInt8) ∉ v) (hvb : (124 : UInt8) ∉ v)
    (hty : ∀ (sp : TypeSp) (r3 : Bytes), r2 ≠ sp.bytes ++ r3)
    (hlt : (raw ++ 58 :: (v ++ 124 :: r2)).length < 4294967296) (hcap : (raw ++ 58 :: (v ++ 124 :: r2)).length ≤ cap) :
    run cfg pf ns cap (raw ++ 58 :: (v ++ 124 :: r2)) = .reject .type ∨
    run cfg pf ns cap (raw ++ 58 :: (v ++ 124 :: r2)) = .reject .emptyKey := by
  have hterr : lexType r2 = .err .type := (lexType_cases r2).resolve_right fun ⟨sp, r, e, _⟩ => hty sp r e
  rw [run_named cfg pf ns cap raw _ hh h0 h58 hlt hcap]
  split
  · right; rfl
  · left; simp [valueSep_append _ _ hv0 hvb, metricTail, hterr, ofMetricRes]

/-- **C02_rej_bad_type_suffix.**  A type spelling must be followed by `|` or the end of the line:
`name:value|c` + any other byte is rejected (`cx`, `msx`, `gg`, …) — except NUL, which is the end of the line to
`lexMetricAttributes`. -/
theorem C02_rej_bad_type_suffix (cfg : Cfg) (pf : Bytes → Option F) (ns : Bytes) (cap : Nat) (raw v : Bytes) (sp : TypeSp)
    (c : UInt8) (r4 : Bytes) (hc1 : c ≠ 124) (hc2 : c ≠ 0)
    (hh : raw.head? ≠ some 95) (h0 : (0 : UInt8) ∉ raw) (h58 : (58 : UInt8) ∉ raw) (hv0 : (0 : UInt8) ∉ v) (hvb : (124 : UInt8) ∉ v)
    (hlt : (raw ++ 58 :: (v ++ 124 :: (sp.bytes ++ c :: r4))).length < 4294967296)
    (hcap : (raw ++ 58 :: (v ++ 124 :: (sp.bytes ++ c :: r4))).length ≤ cap) :
    run cfg pf ns cap (raw ++ 58 :: (v ++ 124 :: (sp.bytes ++ c :: r4))) = .reject .type ∨
    run cfg pf ns cap (raw ++ 58 :: (v ++ 124 :: (sp.bytes ++ c :: r4))) = .reject .emptyKey := by
  rw [run_named cfg pf ns cap raw _ hh h0 h58 hlt hcap]
  split
  · right; rfl
  · left; simp [valueSep_append _ _ hv0 hvb, metricTail, lexType_bytes, attrs, mAttr, hc1, hc2, ofMetricRes]

/-- **C02_rej_bad_number.**  On a line that does not begin with `_`: when the type is not `s` and
`ParseFloat` rejects the value text (or returns NaN), the line is rejected — whatever follows the type. -/
theorem C02_rej_bad_number (cfg : Cfg) (pf : Bytes → Option F) (ns : Bytes) (cap : Nat) (raw v r2 : Bytes)
    (hh : raw.head? ≠ some 95) (h58 : (58 : UInt8) ∉ raw) (hvb : (124 : UInt8) ∉ v)
    (hnotset : r2.head? ≠ some 115)
    (hbad : pf v = none ∨ ∃ x, pf v = some x ∧ FloatLike.isNaN x = true)
    (hlt : (raw ++ 58 :: (v ++ 124 :: r2)).length < 4294967296) (hcap : (raw ++ 58 :: (v ++ 124 :: r2)).length ≤ cap) :
    ∃ e, run cfg pf ns cap (raw ++ 58 :: (v ++ 124 :: r2)) = .reject e := by
  rcases run_plain cfg pf ns cap _ hlt hcap (fun h => hh ((head?_name raw _).1 h)) with h | ⟨m, h⟩
  · exact h
  exfalso
  obtain ⟨_, raw', v', sp, r3, rate, tagsRev, e, _, h58', _, _, hvb', _, _, _, _, _, _, hnum⟩ := run_metric_inv hlt hcap h
  obtain ⟨rfl, e2⟩ := append_cons_unique e h58 h58'
  obtain ⟨rfl, e3⟩ := append_cons_unique e2 hvb hvb'
  have hsp : sp.type ≠ .set := by
    intro hs
    have : sp = .s := TypeSp.type_eq_set.1 hs
    subst this; subst e3; simp [TypeSp.bytes] at hnotset
  obtain ⟨x, hx, hnan, _⟩ := hnum hsp
  rcases hbad with hb | ⟨y, hy, hyn⟩
  · rw [hb] at hx; simp at hx
  · rw [hy] at hx; simp only [Option.some.injEq] at hx; subst hx; rw [hyn] at hnan; simp at hnan

/-- **C02_rej_bad_rate.**  After any well-formed fields, an `@` field whose text `ParseFloat` rejects
makes the whole line rejected — and with the D2 repair (`cfg.checkRate`) so does a rate that is NaN,
infinite, zero or negative. -/
theorem C02_rej_bad_rate (cfg : Cfg) (pf : Bytes → Option F) (ns : Bytes) (cap : Nat) (raw v : Bytes) (sp : TypeSp)
    (fs : List Field) (txt tail : Bytes)
    (hh : raw.head? ≠ some 95) (h0 : (0 : UInt8) ∉ raw) (h58 : (58 : UInt8) ∉ raw) (hv0 : (0 : UInt8) ∉ v) (hvb : (124 : UInt8) ∉ v)
    (hfs : ∀ f ∈ fs, f.WF cfg pf) (htxt : (124 : UInt8) ∉ txt) (htail : tail = [] ∨ ∃ m, tail = 124 :: m)
    (hbad : pf txt = none ∨ (cfg.checkRate = true ∧ ∃ x, pf txt = some x ∧ FloatLike.rateOk x = false))
    (hlt : (raw ++ 58 :: (v ++ 124 :: (sp.bytes ++ (renderFields fs ++ 124 :: 64 :: (txt ++ tail))))).length < 4294967296)
    (hcap : (raw ++ 58 :: (v ++ 124 :: (sp.bytes ++ (renderFields fs ++ 124 :: 64 :: (txt ++ tail))))).length ≤ cap) :
    ∃ e, (e = .num ∨ e = .rate ∨ e = .emptyKey) ∧
      run cfg pf ns cap (raw ++ 58 :: (v ++ 124 :: (sp.bytes ++ (renderFields fs ++ 124 :: 64 :: (txt ++ tail))))) = .reject e := by
  rw [run_rendered cfg pf ns cap _ _ _ _ _ hh h0 h58 hv0 hvb hfs (.inr ⟨_, rfl⟩) hlt hcap]
  split
  · exact ⟨.emptyKey, Or.inr (Or.inr rfl), rfl⟩
  simp only [attrs, mAttr, decide_true, Bool.false_eq_true, if_false, if_true]
  rw [attrs_data_run _ 64 txt tail htxt htail]
  rcases hbad with hb | ⟨hc, x, hx, hr⟩
  · exact ⟨.num, Or.inl rfl, by simp [applyRate, hb, ofMetricRes]⟩
  · exact ⟨.rate, Or.inr (Or.inl rfl), by simp [applyRate, hx, hc, hr, ofMetricRes]⟩

/-- **C02_wf_of_accepted** (all byte strings, NUL included).  An accepted metric has a non-empty name, a
value that is a non-NaN number (a string value for sets), tags that are non-empty and contain neither
`,` nor `|`; its sample rate is finite and strictly positive **provided the D2 repair is in**
(`cfg.checkRate`): on the pinned tree that part is false, see `C02_rate_defect`. -/
theorem C02_wf_of_accepted (cfg : Cfg) (pf : Bytes → Option F) (ns : Bytes) (cap : Nat) (input : Bytes) (m : Metric F)
    (hlt : input.length < 4294967296) (hcap : input.length ≤ cap) (h : run cfg pf ns cap input = .metric m) :
    m.name ≠ [] ∧
    (m.type ≠ .set → ∃ v, m.value = some v ∧ FloatLike.isNaN v = false) ∧
    (m.type = .set → m.value = none) ∧
    (∀ t ∈ m.tags, t ≠ [] ∧ (44 : UInt8) ∉ t ∧ (124 : UInt8) ∉ t) ∧
    (cfg.checkRate = true → FloatLike.rateOk m.rate = true) := by
  obtain ⟨_, raw, v, sp, r3, rate, tagsRev, e, _, _, hn, _, _, hma, f1, f2, f3, f4, f5, f6⟩ := run_metric_inv hlt hcap h
  obtain ⟨w1, w2⟩ := (mAttr_wf cfg pf r3 FloatLike.one [] (by simp) (fun _ => FloatLike.rateOk_one)).of_eq hma
  refine ⟨?_, ?_, ?_, ?_, ?_⟩
  · rw [f1]; unfold withNs; split
    · exact hn
    · simp
  · intro hs; rw [f2] at hs
    obtain ⟨x, _, hx, hv, _⟩ := f6 hs
    exact ⟨x, hv, hx⟩
  · intro hs; rw [f2] at hs; exact (f5 hs).1
  · intro t ht; rw [f4] at ht; exact w1 t (by simpa using ht)
  · rw [f3]; exact w2

/-- **C02_accepts_event_grammar.**  Every event line `_e{n,m}:title|text|fields…` whose declared lengths
are the lengths of its title and text (any bytes in them, `|` included; leading zeros allowed in the
numbers) is accepted with exactly the specified fields: title, text with `\\n` → newline, `d:` date,
`h:` host, `k:` aggregation key, `p:` priority, `s:` source type, `t:` alert type, `#` tags (empty ones
dropped), unknown fields ignored — in any order and number. -/
theorem C02_accepts_event_grammar (cfg : Cfg) (pf : Bytes → Option F) (ns : Bytes) (cap : Nat) (el : EventLine)
    (hwf : el.WF) (hlt : el.render.length < 4294967296) (hcap : el.render.length ≤ cap) :
    run cfg pf ns cap el.render = .event el.spec := by
  obtain ⟨hd1, hd2, hv1, hv2, hfs⟩ := hwf
  let hdr : Bytes := [95, 101, 123] ++ (el.titleDigits ++ 44 :: (el.textDigits ++ [125, 58]))
  have hr : el.render = hdr ++ (el.title ++ 124 :: (el.text ++ renderEFields el.fields)) := by
    simp [EventLine.render, hdr]
  have hlen : el.title.length + el.text.length + (renderEFields el.fields).length < el.render.length := by
    rw [hr]; simp only [List.length_append, List.length_cons]; omega
  have hg : (⟨UInt32.ofNat el.render.length, cap⟩ : Ghost).len.toNat = el.render.length := UInt32.toNat_ofNat_of_lt' hlt
  rw [run_eq, if_pos (show el.render.head? = some 95 from rfl)]
  unfold datadog
  rw [show el.render.tail = 101 :: 123 :: (el.titleDigits ++ 44 :: (el.textDigits ++ 125 :: 58 ::
      (el.title ++ 124 :: (el.text ++ renderEFields el.fields)))) from rfl, eventHeader_render _ _ _ hd1 hd2 (by omega) (by omega)]
  simp only [Res.bind_ok, hv1, hv2]
  have hb := eventBody_exact cfg ⟨UInt32.ofNat el.render.length, cap⟩ hdr el.title el.text (renderEFields el.fields)
    (by rw [hg, hr]) (by rw [hg]; exact hcap)
  rw [← hr] at hb
  rw [hb]
  simp only [Res.bind_ok]
  rw [eattrs_eq_attrs _ (by rw [hg]; exact hcap) _ _ (by rw [hg]; omega)]
  have hf := efields_run el.fields hfs [] (Or.inl rfl) { title := el.title, text := unescape el.text }
  simp only [List.append_nil] at hf
  rw [hf]
  simp [attrs, ofEventRes, EventLine.spec]

/-- non-vacuity of `C02_accepts_event_grammar`: `_e{02,4}:ab|x\ny|p:low|#t,,u|zz|d:12` -/
example :
    let el : EventLine := { titleDigits := [48, 50], textDigits := [52], title := [97, 98], text := [120, 92, 110, 121], fields := [.prio .low, .tags [[116], [], [117]], .other [122, 122], .date [49, 50]] }
    el.WF ∧ el.spec = { title := [97, 98], text := [120, 10, 121], date := 12, prio := .low, tags := [[116], [117]] } := by
  refine ⟨⟨by decide, by decide, by decide, by decide, ?_⟩, by decide⟩
  intro f hf
  simp only [List.mem_cons, List.not_mem_nil, or_false] at hf
  rcases hf with rfl | rfl | rfl | rfl
  · trivial
  · intro t ht; simp only [List.mem_cons, List.not_mem_nil, or_false] at ht; rcases ht with rfl | rfl | rfl <;> decide
  · exact ⟨by decide, 122, [122], rfl, by decide⟩
  · exact ⟨by decide, by decide⟩

/-- **C02_wf_of_accepted_event.**  The tags of an accepted event are non-empty and contain neither `,`
nor `|`; an event line starts with `_e` and contains `:` and `|`. -/
theorem C02_wf_of_accepted_event (cfg : Cfg) (pf : Bytes → Option F) (ns : Bytes) (cap : Nat) (input : Bytes) (e : Event)
    (h : run cfg pf ns cap input = .event e) :
    (∀ t ∈ e.tags, t ≠ [] ∧ (44 : UInt8) ∉ t ∧ (124 : UInt8) ∉ t) ∧
    (∃ t, input = 95 :: 101 :: t) ∧ (58 : UInt8) ∈ input ∧ (124 : UInt8) ∈ input := by
  obtain ⟨t, rfl, hd⟩ := run_event_inv h
  obtain ⟨h1, h2, h3, h4⟩ := datadog_ok_inv hd
  obtain ⟨t', rfl⟩ := List.head?_eq_some_iff.1 h3
  exact ⟨h4, ⟨t', rfl⟩, List.mem_cons_of_mem _ h1, h2⟩

/-- **C02_rej_no_keysep** (all byte strings).  A line without `:` is rejected — with
`errMissingKeySep` unless it is empty or begins with `_` or NUL. -/
theorem C02_rej_no_keysep (cfg : Cfg) (pf : Bytes → Option F) (ns : Bytes) (cap : Nat) (input : Bytes)
    (hlt : input.length < 4294967296) (hcap : input.length ≤ cap) (h58 : (58 : UInt8) ∉ input) :
    (∃ e, run cfg pf ns cap input = .reject e) ∧
    (input ≠ [] → input.head? ≠ some 95 → input.head? ≠ some 0 → run cfg pf ns cap input = .reject .keysep) := by
  have hrun := run_eq cfg pf ns cap input
  split at hrun
  · next hh =>
    obtain ⟨t, rfl⟩ := List.head?_eq_some_iff.1 hh
    obtain ⟨e, he⟩ := datadog_no_colon cfg ⟨UInt32.ofNat (95 :: t).length, cap⟩ (95 :: t) t (List.not_mem_of_not_mem_cons h58)
    rw [List.tail_cons, he] at hrun
    exact ⟨⟨e, hrun⟩, fun _ h => absurd hh h⟩
  split at hrun
  · next h0 =>
    refine ⟨⟨_, hrun⟩, fun hne _ hn0 => ?_⟩
    cases input with
    | nil => exact absurd rfl hne
    | cons b t => exact absurd (congrArg some h0) hn0
  · rcases metricLine_cases cfg pf ns cap input hlt hcap with e | ⟨raw, r1, e1, _⟩
    · rw [e] at hrun; exact ⟨⟨_, hrun⟩, fun _ _ _ => hrun⟩
    · exact absurd (by rw [e1]; simp) h58

/-- **C02_rej_no_valuesep** (all byte strings).  A line without `|` is never accepted: it is rejected —
or, on the pinned tree only, an event header with wrapping lengths makes `lexEventBody` panic
(defect D1, see C03; with the repair `cfg.wideLenCheck` the outcome is always a rejection). -/
theorem C02_rej_no_valuesep (cfg : Cfg) (pf : Bytes → Option F) (ns : Bytes) (cap : Nat) (input : Bytes)
    (hlt : input.length < 4294967296) (hcap : input.length ≤ cap) (h124 : (124 : UInt8) ∉ input) :
    (∃ e, run cfg pf ns cap input = .reject e) ∨ (cfg.wideLenCheck = false ∧ run cfg pf ns cap input = .panic) := by
  cases hrun : run cfg pf ns cap input with
  | reject e => left; exact ⟨e, rfl⟩
  | metric m =>
    exfalso
    obtain ⟨_, raw, v, sp, r3, _, _, e, _⟩ := run_metric_inv hlt hcap hrun
    exact h124 (by rw [e]; simp)
  | event e => exact absurd (C02_wf_of_accepted_event cfg pf ns cap input e hrun).2.2.2 h124
  | panic =>
    right
    refine ⟨?_, rfl⟩
    cases hw : cfg.wideLenCheck with
    | false => rfl
    | true => exact absurd hrun (run_ne_panic cfg pf ns cap input hlt hcap (.inl hw))

/-- `ParseFloat` restricted to the two texts of the witness: `"1"` ↦ 1.0, `"0"` ↦ 0.0 -/
def d2pf (b : Bytes) : Option UInt64 := if b = [49] then some 0x3ff0000000000000 else if b = [48] then some 0 else none

/-- `a:1|c|@0` -/
def d2line : Bytes := [97, 58, 49, 124, 99, 124, 64, 48]

/-- **C02_rate_defect** (negative witness, D2).  On the pinned tree (`checkRate = false`: before the repair)
the line `a:1|c|@0` is accepted with sample rate 0 — the last conjunct of the property ("a finite strictly
positive sample rate") is false there.  (Whatever `ParseFloat` returns passes unchecked there, so `@-1`,
`@nan`, `@inf` are accepted likewise; the witness is `@0`.) -/
theorem C02_rate_defect :
    run { checkRate := false, wideLenCheck := false } d2pf [] 8 d2line =
      .metric { name := [97], type := .counter, value := some 0x3ff0000000000000, svalue := [], rate := 0, tags := [] } ∧
    FloatLike.rateOk (0 : UInt64) = false := by
  decide

/-- with the repair the same line is rejected -/
theorem C02_rate_repaired : run { checkRate := true, wideLenCheck := false } d2pf [] 8 d2line = .reject .rate := by
  decide

/-- **C02_accept_only_grammar_partial.**  The full converse is NOT provable, and false on the code as it is (see the
counterexample below):

  theorem C02_accept_only_grammar : (0 ∉ input) → run cfg pf ns cap input = .metric m →
      ∃ ml : MetricLine, ml.WF cfg pf ∧ ml.render = input

What is proved: the *head* of every accepted line is grammatical — name, `:`, value, `|`, one of the
five type spellings, then the end of the line or a `|`.  What is missing: that the rest is a sequence
of well-formed fields.  It is not: an empty field makes `lexMetricAttribute` consume the following `|`
and skip the next field whatever it contains (`a:1|c||@x` is accepted, `@x` never reaches `ParseFloat`),
and a trailing `|` is accepted. -/
theorem C02_accept_only_grammar_partial (cfg : Cfg) (pf : Bytes → Option F) (ns : Bytes) (cap : Nat) (input : Bytes) (m : Metric F)
    (hlt : input.length < 4294967296) (hcap : input.length ≤ cap) (h0 : (0 : UInt8) ∉ input)
    (h : run cfg pf ns cap input = .metric m) :
    ∃ (name value : Bytes) (sp : TypeSp) (r3 : Bytes),
      input = name ++ 58 :: (value ++ 124 :: (sp.bytes ++ r3)) ∧
      ({ name := name, value := value, ty := sp, fields := [] } : MetricLine).WF cfg pf ∧
      (r3 = [] ∨ ∃ r4, r3 = 124 :: r4) := by
  obtain ⟨hh, raw, v, sp, r3, rate, tagsRev, e, h0r, h58, hn, hv0, hvb, hma, _, _, _, _, _, hnum⟩ := run_metric_inv hlt hcap h
  refine ⟨raw, v, sp, r3, e, ⟨h0r, h58, ?_, hn, hv0, hvb, ?_, by simp⟩, ?_⟩
  · exact fun hr => hh (e ▸ (head?_name raw _).2 hr)
  · intro hs
    have : sp.type ≠ .set := fun h => hs (TypeSp.type_eq_set.1 h)
    obtain ⟨x, hx, hnan, _⟩ := hnum this
    exact ⟨x, hx, hnan⟩
  · cases r3 with
    | nil => left; rfl
    | cons b t =>
      right
      simp only [attrs] at hma
      split at hma
      · next hb => exact ⟨t, by rw [hb]⟩
      · split at hma
        · next hb => exact absurd (by rw [e, hb]; simp) h0
        · simp at hma

/-- `a:1|c||@x` -/
def swallowLine : Bytes := [97, 58, 49, 124, 99, 124, 124, 64, 120]

/-- the counterexample to the full converse: the line is accepted (rate 1: the `@x` is never parsed),
yet `||@x` is not the rendering of any list of well-formed fields -/
theorem C02_accept_only_grammar_counterexample :
    run { checkRate := true, wideLenCheck := true } d2pf [] 9 swallowLine =
      .metric { name := [97], type := .counter, value := some 0x3ff0000000000000, svalue := [], rate := 0x3ff0000000000000, tags := [] } ∧
    ¬ ∃ fs : List Field, (∀ f ∈ fs, f.WF { checkRate := true, wideLenCheck := true } d2pf) ∧ renderFields fs = [124, 124, 64, 120] := by
  refine ⟨by decide, ?_⟩
  rintro ⟨fs, hwf, hr⟩
  cases fs with
  | nil => simp [renderFields] at hr
  | cons f fs =>
    have hf := hwf f (by simp)
    simp only [renderFields, List.flatMap_cons, List.cons_append, List.cons.injEq, true_and] at hr
    cases f with
    | rate t => simp [Field.render] at hr
    | tags ts => simp [Field.render] at hr
    | other t =>
      obtain ⟨h124, b, r, rfl, _, _⟩ := hf
      simp only [Field.render, List.cons_append, List.cons.injEq] at hr
      exact h124 (by simp [hr.1])

end
end Gsd

import Gsd.Proofs.Lemmas.Split
/-!
# C06 — shard routing is a deterministic partition of series

`h` ranges over **all** routing functions, `n` over all shard counts ≥ 1,
`m` over all maps (a Go map has unique keys: hypothesis `NodupKeys` / `MMap.WF`).
-/
namespace Gsd
open AList

section helpers
variable {κ ν : Type} [DecidableEq κ]

theorem length_splitInto (h : κ → Nat) (n : Nat) (m : AList κ ν) : (splitInto h n m).length = n :=
  List.foldlRecOn (motive := fun ps : List (AList κ ν) => ps.length = n) m _ List.length_replicate
    fun _ hps _ _ => (List.length_modify ..).trans hps

end helpers

section property
variable {κ C T G S : Type} [DecidableEq κ]

/-- **C06_partition.**  For every routing function `h`, every shard count `n` and every batch `m`:
piece `i` of `Split` holds, for every series identity `k` and each of the four types, exactly the
batch's entry for `k` when `h k % n = i`, and nothing otherwise.  Hence each series is in exactly one
piece (`h k % n`), unchanged, and the pieces together are the batch. -/
theorem C06_partition (h : κ → Nat) (n : Nat) (m : MMap κ C T G S) (hm : m.WF) (i : Nat) (hi : i < n) (k : κ) :
    lookup k ((m.split h n)[i]?.getD {}).counters = (if h k % n = i then lookup k m.counters else none) ∧
    lookup k ((m.split h n)[i]?.getD {}).timers   = (if h k % n = i then lookup k m.timers   else none) ∧
    lookup k ((m.split h n)[i]?.getD {}).gauges   = (if h k % n = i then lookup k m.gauges   else none) ∧
    lookup k ((m.split h n)[i]?.getD {}).sets     = (if h k % n = i then lookup k m.sets     else none) :=
  MMap.lookup_split h n m hm i hi k

/-- **C06_exactly_one_shard.**  A counter series of the batch is found in piece `h k % n` and in no other piece
(the same statement for the other three types is `C06_partition`). -/
theorem C06_exactly_one_shard (h : κ → Nat) (n : Nat) (hn : 0 < n) (m : MMap κ C T G S) (hm : m.WF) (k : κ) (v : C)
    (hk : lookup k m.counters = some v) :
    lookup k ((m.split h n)[h k % n]?.getD {}).counters = some v ∧
    ∀ j, j < n → j ≠ h k % n → lookup k ((m.split h n)[j]?.getD {}).counters = none := by
  refine ⟨by rw [(C06_partition h n m hm _ (Nat.mod_lt _ hn) k).1, if_pos rfl, hk], fun j hj hne => ?_⟩
  rw [(C06_partition h n m hm j hj k).1, if_neg (Ne.symm hne)]

set_option linter.unusedVariables false in
/-- **C06_route_deterministic.**  The shard a series is sent to depends only on its identity and the shard
count: two batches containing the same series put it into the same piece (stated for counter series; the other
three types follow from `C06_partition` in the same way). -/
theorem C06_route_deterministic (h : κ → Nat) (n : Nat) (hn : 0 < n)
    (m₁ m₂ : MMap κ C T G S) (h₁ : m₁.WF) (h₂ : m₂.WF) (k : κ)
    (i j : Nat) (hi : i < n) (hj : j < n)
    (hki : (lookup k ((m₁.split h n)[i]?.getD {}).counters).isSome)
    (hkj : (lookup k ((m₂.split h n)[j]?.getD {}).counters).isSome) : i = j := by
  rw [(C06_partition h n m₁ h₁ i hi k).1] at hki
  rw [(C06_partition h n m₂ h₂ j hj k).1] at hkj
  split at hki
  · next e1 =>
    split at hkj
    · next e2 => exact e1.symm.trans e2
    · cases hkj
  · cases hki

/-- **C06_dispatch.**  `DispatchMetricMap` hands piece `i` to worker `i` and skips exactly the empty pieces. -/
theorem C06_dispatch (h : κ → Nat) (n : Nat) (m : MMap κ C T G S) (w : Nat) (p : MMap κ C T G S) :
    (w, p) ∈ m.dispatch h n ↔ (w < n ∧ (m.split h n)[w]? = some p ∧ p.isEmpty = false) := MMap.mem_dispatch h n m w p

example :
    let m : MMap (String × String) Int Int Int Int :=
      { counters := [(("a",""), 1), (("b","t:1"), 2)], gauges := [(("a",""), 7)] }
    m.WF ∧ (m.split (fun k => k.1.length + k.2.length) 3).map (fun p => (p.counters, p.gauges)) =
      [([], []), ([(("a",""), 1), (("b","t:1"), 2)], [(("a",""), 7)]), ([], [])] := by
  refine ⟨⟨by decide, by decide, by decide, by decide⟩, by decide⟩

end property
end Gsd

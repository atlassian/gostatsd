import Gsd.Proofs.Lemmas.K8s
/-!
# C13 — Kubernetes lookups reflect the current pod holding an IP

Everything is stated for **every** regex oracle `cfg.reMatch`, every label / annotation regex (or
none), and every history of `apply` (add / update / sync), `delete`, `resync` and `lookup` operations
starting from the empty provider.  Hypotheses on histories (both executable, `Model/K8s.lean`):

* `consistent` — a Deleted event carries the version of the pod that the store holds (what the API
  server sends, and what client-go's tombstone path reconstructs).  Needed because `OnDelete`
  decides from the *event's* object whether and which memo entry to drop;
* `valid` — `consistent`, and at every moment no two indexable pods share an IP (the property's
  "pods with distinct IPs"; with two pods on one IP the code answers `objs[0]` of a Go set).

The lookup/update race inside `instanceFromCache` (informer read and memo write are two critical
sections) is *outside* the theorems about `run`; the end of the file exhibits its effect on the pinned tree and
proves that the repair (`p.cacheGen` in k8s.go) closes it (`C13_race_repaired`).
-/
namespace Gsd
open Gsd.AList Gsd.K8s

variable {Pat : Type}

-- the history the `example`s run: add a pod, edit its labels, let it finish, reuse its IP, delete
namespace C13ex
def reM : ReMatch String := fun re key =>
  if re = "app" then (if key = "app" then some ("app", []) else none)
  else if re = "^g/(?P<tag>.*)$" then
    (if key = "g/team" then some ("g/team", ["team"]) else if key = "g/" then some ("g/", [""]) else none)
  else none
def cfg : Config String := { reMatch := reM, labelRe := some "app", annRe := some "^g/(?P<tag>.*)$" }
def podA : Pod :=
  { ns := "ns", name := "a", ip := "10.0.0.1", hostIP := "10.1.1.1", hostNetwork := false, phase := "Running",
    deleting := false, labels := [("app", "web")], annotations := [("g/team", "core"), ("g/", "x"), ("other", "y")] }
def podA' : Pod := { podA with labels := [("app", "api")] }
def podAdone : Pod := { podA' with phase := "Succeeded" }
def podB : Pod := { podA with name := "b", labels := [], annotations := [] }
def ops : List Op :=
  [.apply podA, .lookup "10.0.0.1", .apply podA', .lookup "10.0.0.1", .apply podAdone, .lookup "10.0.0.1",
   .apply podB, .lookup "10.0.0.1", .delete podAdone, .resync, .lookup "10.0.0.1", .delete podB, .lookup "10.0.0.1"]
end C13ex

/-- **Memo invariant**, over all histories with consistent deletes (no distinctness needed): whatever
the memo holds for an IP was derived from a pod that is *currently* in the store, indexable, and
holds that IP.  (A memoised nil is never served: `instanceFromCache` recomputes it.) -/
theorem C13_memo_inv (cfg : Config Pat) (ops : List Op) (hc : consistent [] ops = true)
    (ip : String) (inst : Inst)
    (hm : lookup ip (stateAfter cfg K8s.init ops).memo = some (some inst)) :
    (stateAfter cfg K8s.init ops).store = storeAfter [] ops ∧
    ∃ k q, lookup k (storeAfter [] ops) = some q ∧ indexable q = true ∧ q.ip = ip ∧ inst = derive cfg q := by
  have hinv := inv_stateAfter cfg (inv_init cfg) ops hc
  have hs := stateAfter_store cfg K8s.init ops
  refine ⟨hs, ?_⟩
  obtain ⟨q, hq, hd⟩ := hinv.2 ip inst hm
  rw [mem_podsAt_nodup hinv.1] at hq
  obtain ⟨⟨k, hk⟩, hi, hip⟩ := hq
  rw [hs] at hk
  exact ⟨k, q, hk, hi, hip, hd⟩

example : consistent [] C13ex.ops = true ∧
    lookup "10.0.0.1" (stateAfter C13ex.cfg K8s.init (C13ex.ops.take 8)).memo = some (some ⟨"ns/b", []⟩) := by decide

/-- **Lookup = specification of the current pod set**: on every valid history the whole output
sequence of the provider equals `specRun`, which carries only the store (no memo) and answers each
lookup with `specAnswer (current store) ip`. -/
theorem C13_lookup_spec (cfg : Config Pat) (ops : List Op) (hv : valid [] ops = true) :
    run cfg K8s.init ops = specRun cfg [] ops := by
  rw [← xrunG_plain true, ← xspecRun_plain]
  exact xrunG_fixed_eq_spec cfg _ K8s.init (inv_init cfg) (by rwa [xops_plain])

example : valid [] C13ex.ops = true ∧
    run C13ex.cfg K8s.init C13ex.ops =
      [.ev, .ans (some ⟨"ns/a", ["app:web", "team:core", "g/:x"]⟩),
       .ev, .ans (some ⟨"ns/a", ["app:api", "team:core", "g/:x"]⟩),
       .ev, .ans none,
       .ev, .ans (some ⟨"ns/b", []⟩),
       .ev, .ev, .ans (some ⟨"ns/b", []⟩), .ev, .ans none] := by decide +kernel

/-- **What `specAnswer` means**, independently of list order: with distinct IPs, *any* stored pod that
is not finished (any phase but Succeeded/Failed, as `isIndexablePod` has it), not host-network and holds `ip` determines the answer (identity `namespace/name` and the
tags of its labels then annotations); if no stored pod does, the answer is nothing. -/
theorem C13_spec_meaning (cfg : Config Pat) (store : Store) (hd : distinctIPs store = true) (ip : String) :
    (∀ k q, (k, q) ∈ store → holds ip q = true →
        specAnswer cfg store ip = some ⟨q.ns ++ "/" ++ q.name,
          tagsOf cfg.reMatch cfg.labelRe q.labels ++ tagsOf cfg.reMatch cfg.annRe q.annotations⟩) ∧
    ((∀ k q, (k, q) ∈ store → holds ip q = false) → specAnswer cfg store ip = none) := by
  constructor
  · intro k q hmem hh
    have hq : q ∈ podsAt store ip := by
      rw [podsAt_eq_filter_holds]
      exact List.mem_filter.mpr ⟨List.mem_map.mpr ⟨(k, q), hmem, rfl⟩, hh⟩
    rw [specAnswer_of_mem cfg hd hq]
    rfl
  · intro hnone
    unfold specAnswer
    have : (store.map Prod.snd).find? (holds ip) = none := by
      rw [List.find?_eq_none]
      intro q hq
      obtain ⟨⟨k, q'⟩, hmem, rfl⟩ := List.mem_map.mp hq
      simp [hnone k q' hmem]
    rw [this]; rfl

example : distinctIPs (storeAfter [] (C13ex.ops.take 7)) = true ∧
    (("ns", "b"), C13ex.podB) ∈ storeAfter [] (C13ex.ops.take 7) ∧ holds "10.0.0.1" C13ex.podB = true ∧
    holds "10.0.0.1" C13ex.podAdone = false := by decide

/-- **Tag-name rule** (`getTagNameFromRegex`), by cases on what the regex library answered:
no match → no tag; the first group named `tag` with non-empty text; otherwise the whole key provided
the overall match is non-empty; a match of the empty string without a tag text gives no tag. -/
theorem C13_tagname (reMatch : ReMatch Pat) (re : Pat) (key : String) :
    (reMatch re key = none → getTagName reMatch re key = "") ∧
    (∀ whole groups g, reMatch re key = some (whole, groups) → groups.find? (fun x => x ≠ "") = some g →
        getTagName reMatch re key = g ∧ g ≠ "" ∧ g ∈ groups) ∧
    (∀ whole groups, reMatch re key = some (whole, groups) → (∀ x ∈ groups, x = "") → whole ≠ "" →
        getTagName reMatch re key = key) ∧
    (∀ groups, reMatch re key = some ("", groups) → (∀ x ∈ groups, x = "") →
        getTagName reMatch re key = "") := by
  have hnone : ∀ groups : List String, (∀ x ∈ groups, x = "") → groups.find? (fun x => x ≠ "") = none :=
    fun groups hall => List.find?_eq_none.2 fun x hx => by simp only [hall x hx, ne_eq, not_true_eq_false, decide_false,
      Bool.false_eq_true, not_false_eq_true]
  refine ⟨fun h => by simp only [getTagName, h], ?_, ?_, ?_⟩
  · intro whole groups g h hg
    exact ⟨by simp only [getTagName, h, hg], by simpa only [ne_eq, decide_eq_true_eq] using List.find?_some hg,
      List.mem_of_find?_eq_some hg⟩
  · intro whole groups h hall hw
    simp only [getTagName, h, hnone groups hall, ne_eq, hw, not_false_eq_true, if_true]
  · intro groups h hall
    simp only [getTagName, h, hnone groups hall, ne_eq, not_true_eq_false, if_false]

example : getTagName C13ex.reM "^g/(?P<tag>.*)$" "g/team" = "team" ∧ getTagName C13ex.reM "^g/(?P<tag>.*)$" "g/" = "g/" ∧
    getTagName C13ex.reM "app" "app" = "app" ∧ getTagName C13ex.reM "app" "other" = "" := by decide

/-- **Tags of an instance**: the tags are exactly the `name:value` of the labels / annotations whose key yields a
non-empty tag name under the respective regex; a nil regex yields none.  (Stated as membership: `tagsOf` is a
`filterMap`, one tag per such entry, in the entries' order.) -/
theorem C13_tags (reMatch : ReMatch Pat) (re : Option Pat) (m : AList String String) (t : String) :
    t ∈ tagsOf reMatch re m ↔
      ∃ r, re = some r ∧ ∃ k v, (k, v) ∈ m ∧ getTagName reMatch r k ≠ "" ∧ t = getTagName reMatch r k ++ ":" ++ v := by
  cases re with
  | none => exact ⟨fun h => (nomatch h), fun ⟨_, h, _⟩ => (nomatch h)⟩
  | some r =>
    simp only [tagsOf, List.mem_filterMap, Option.ite_none_right_eq_some, Option.some.injEq, Prod.exists,
      exists_eq_left', eq_comm (a := t)]

/-- **Never stale**, for all histories with consistent deletes — even when IPs collide: the answer
of any lookup is derived from a pod version that is in the store *at the moment of the lookup*
(versions that were replaced by an update, or deleted, are no longer in the store: keys are unique),
and that version is running, not host-network and holds the IP.  So an answer can equal the
derivation of a retired version only by coinciding with that of a current one. -/
theorem C13_never_stale (cfg : Config Pat) (pre post : List Op) (ip : String) (inst : Inst)
    (hc : consistent [] (pre ++ Op.lookup ip :: post) = true)
    (hans : (run cfg K8s.init (pre ++ Op.lookup ip :: post))[pre.length]? = some (Out.ans (some inst))) :
    NodupKeys (storeAfter [] pre) ∧
    ∃ k q, lookup k (storeAfter [] pre) = some q ∧ holds ip q = true ∧ inst = derive cfg q := by
  have hn : NodupKeys (storeAfter [] pre) := nodup_storeAfter nodupKeys_nil pre
  refine ⟨hn, ?_⟩
  have hinv := inv_stateAfter cfg (inv_init cfg) pre (consistent_append hc).1
  rw [run_append, List.getElem?_append_right (by rw [run_length]; exact Nat.le_refl _)] at hans
  simp only [run_length, Nat.sub_self, run, step, List.getElem?_cons_zero, Option.some.injEq, Out.ans.injEq] at hans
  obtain ⟨q, hq, hd⟩ := answer_from_current cfg hinv ip inst hans
  obtain ⟨⟨k, hk⟩, hi, hip⟩ := (mem_podsAt_nodup hinv.1).1 hq
  rw [stateAfter_store] at hk
  exact ⟨k, q, hk, by rw [holds_eq, hi, hip, beq_self_eq_true]; rfl, hd⟩

example : consistent [] (C13ex.ops.take 3 ++ Op.lookup "10.0.0.1" :: C13ex.ops.drop 4) = true ∧
    (run C13ex.cfg K8s.init (C13ex.ops.take 3 ++ Op.lookup "10.0.0.1" :: C13ex.ops.drop 4))[3]? =
      some (Out.ans (some ⟨"ns/a", ["app:api", "team:core", "g/:x"]⟩)) := by decide +kernel

/-- an *inconsistent* delete (the event carries a finished version while the store still holds the
running one, with no Updated event in between) leaves a stale memo entry: the hypothesis is necessary -/
example :
    run C13ex.cfg K8s.init [.apply C13ex.podB, .lookup "10.0.0.1", .delete { C13ex.podB with phase := "Succeeded" }, .lookup "10.0.0.1"]
      = [.ev, .ans (some ⟨"ns/b", []⟩), .ev, .ans (some ⟨"ns/b", []⟩)] ∧
    specRun C13ex.cfg [] [.apply C13ex.podB, .lookup "10.0.0.1", .delete { C13ex.podB with phase := "Succeeded" }, .lookup "10.0.0.1"]
      = [.ev, .ans (some ⟨"ns/b", []⟩), .ev, .ans none] := by decide

/-- the lookup/update race (not a history of atomic lookups): the informer read of a missed lookup
happens, then an Updated event is handled (there is nothing to invalidate yet), then the lookup
writes what it computed.  The memo now holds the *old* version and every later lookup returns it
until the next event for that pod or a resync. -/
example :
    let s1 := (step C13ex.cfg K8s.init (.apply C13ex.podA)).1
    let r := lookupRead C13ex.cfg s1 "10.0.0.1"                 -- first half of the lookup
    let s2 := (step C13ex.cfg s1 (.apply C13ex.podA')).1           -- OnUpdate runs in between
    let s3 := lookupWrite s2 "10.0.0.1" r                        -- second half
    (step C13ex.cfg s3 (.lookup "10.0.0.1")).2 = .ans (some ⟨"ns/a", ["app:web", "team:core", "g/:x"]⟩) ∧
    specAnswer C13ex.cfg s3.store "10.0.0.1" = some ⟨"ns/a", ["app:api", "team:core", "g/:x"]⟩ := by decide +kernel

/-- the same witness through the driver's transition function for racing lookups (pinned tree:
`fixed = false`), against the specification that linearises the racing lookup before its event -/
example :
    let l : List XOp := [.plain (.apply C13ex.podA), .race "10.0.0.1" (.apply C13ex.podA'), .plain (.lookup "10.0.0.1")]
    valid [] (xops l) = true ∧
    xrunG false C13ex.cfg K8s.init l ≠ xspecRun C13ex.cfg [] l ∧
    xrunG true C13ex.cfg K8s.init l = xspecRun C13ex.cfg [] l := by decide

/-- **The repair closes the race** (`p.cacheGen` in k8s.go, `handoff/C13-fix-1.patch`: a generation counter bumped
by every invalidation; a computed instance is memoised only if the counter did not move meanwhile).
For every valid history in which any lookup may have one event handled between its informer read
and its memo write, the repaired provider answers the specification (racing lookups linearised
before their event).  The pinned tree (`xrunG false`) does not — see the witness above. -/
theorem C13_race_repaired (cfg : Config Pat) (l : List XOp) (hv : valid [] (xops l) = true) :
    xrunG true cfg K8s.init l = xspecRun cfg [] l :=
  xrunG_fixed_eq_spec cfg l K8s.init (inv_init cfg) hv

end Gsd

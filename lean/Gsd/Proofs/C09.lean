import Gsd.Proofs.Lemmas.Expiry
/-!
# C09 — series persist until their type's expiry interval elapses, then disappear

`cfg` ranges over **all** four-tuples of `Int` intervals (negative, zero, positive, independently
per type), `h` over **all** histories of `dp` / `flush` operations whose times never go backwards
(`Nondecreasing`), `ty`, `k` over all series.  `viewAt cfg h` is the map a
flush issued right after `h` hands to the backends (taken before `Reset`), `reported cfg h ty k` says
that series `(ty, k)` is in it.  The model's expiry test reads the direction of its age comparison from the
source (`Facts.rel_isExpired`); the theorems about `reported` rest on `Expiry.isExpired_iff`.
-/
namespace Gsd
open Gsd.AList Gsd.Expiry

/-- **C09_reported_eq_spec.**  Membership in the view equals the executable specification
`specReported`, which the driver evaluates on the *implementation's* views. -/
theorem C09_reported_eq_spec (cfg : Config) (h : List Op) (hm : Nondecreasing h) (ty : MType) (k : Key) :
    reported cfg h ty k = specReported (cfg ty) ty k h := by
  unfold specReported
  cases hl : lastDp ty k h with
  | none => exact reported_of_noDp cfg ty k ((lastDp_none_iff ..).1 hl)
  | some r =>
    obtain ⟨T, d, b⟩ := r
    obtain ⟨a, rfl, hb⟩ := (lastDp_some_iff ..).1 hl
    rw [reported_after_dp cfg ty k a T d (fun op hop _ => nondecreasing_before hm op hop) hb]
    simp only [isExpired_eq]

/-- **C09_reported_iff.**  For every history: series `(ty, k)` is reported by a flush issued after `h`
iff `h` contains a datapoint of the series (at `T`, the newest one: no datapoint of the series after
it) and no flush `g` after that datapoint had `i ≠ 0 ∧ g − T > i`, `i` the interval of *its* type. -/
theorem C09_reported_iff (cfg : Config) (h : List Op) (hm : Nondecreasing h) (ty : MType) (k : Key) :
    reported cfg h ty k = true ↔
      ∃ a T d b, h = a ++ Op.dp ty k T d :: b ∧ NoDp ty k b ∧
        ∀ g, Op.flush g ∈ b → ¬ (cfg ty ≠ 0 ∧ g - T > cfg ty) := by
  constructor
  · intro hr
    cases hl : lastDp ty k h with
    | none => rw [reported_of_noDp cfg ty k ((lastDp_none_iff ..).1 hl)] at hr; cases hr
    | some r =>
      obtain ⟨T, d, b⟩ := r
      obtain ⟨a, rfl, hb⟩ := (lastDp_some_iff ..).1 hl
      rw [reported_after_dp cfg ty k a T d (fun op hop _ => nondecreasing_before hm op hop) hb,
        all_not_expired_iff] at hr
      exact ⟨a, T, d, b, rfl, hb, hr⟩
  · rintro ⟨a, T, d, b, rfl, hb, hf⟩
    rw [reported_after_dp cfg ty k a T d (fun op hop _ => nondecreasing_before hm op hop) hb, all_not_expired_iff]
    exact hf

example :
    let cfg : Config := fun ty => match ty with | .counter => 5 | .timer => -1 | .gauge => 0 | .set => 5
    let h := [Op.dp .counter "a" 10 ⟨3, []⟩, Op.dp .timer "a" 10 ⟨2, []⟩, Op.flush 12, Op.flush 15, Op.flush 16]
    Nondecreasing h ∧ reported cfg (h.take 2) .counter "a" = true ∧ reported cfg (h.take 4) .counter "a" = true ∧
      reported cfg h .counter "a" = false ∧ reported cfg (h.take 2) .timer "a" = true ∧
      reported cfg (h.take 3) .timer "a" = false := by decide

/-- **C09_views_snoc.**  The list of views the driver prints for a history is made of `viewAt`:
a flush appends the view of the history before it, a datapoint appends nothing. -/
theorem C09_views_snoc (cfg : Config) (h : List Op) (op : Op) :
    views cfg (h ++ [op]) = match op with
      | .flush _ => views cfg h ++ [viewAt cfg h]
      | .dp .. => views cfg h := by
  unfold views
  rw [viewsFrom_append]
  cases op <;> simp [viewsFrom, step, viewAt, run]

/-- **C09_boundary.**  A series whose newest datapoint is at `T`, with no flush beyond the interval so
far (`hbf`): the first flush `t` with `i ≠ 0 ∧ t − T > i` still reports it, and no later flush does
until new data for the series arrives. -/
theorem C09_boundary (cfg : Config) (ty : MType) (k : Key) (a : List Op) (T : Int) (d : Dp) (b : List Op)
    (t : Int) (c : List Op)
    (hm : Nondecreasing (a ++ Op.dp ty k T d :: b ++ Op.flush t :: c))
    (hb : NoDp ty k b) (hc : NoDp ty k c)
    (hbf : ∀ g, Op.flush g ∈ b → ¬ (cfg ty ≠ 0 ∧ g - T > cfg ty))
    (ht : cfg ty ≠ 0 ∧ t - T > cfg ty) :
    reported cfg (a ++ Op.dp ty k T d :: b) ty k = true ∧
    reported cfg (a ++ Op.dp ty k T d :: b ++ Op.flush t :: c) ty k = false := by
  have ha : ∀ op ∈ a, op.isDpFor ty k = true → op.time ≤ T := fun op hop _ =>
    nondecreasing_before (x := Op.dp ty k T d) (by simpa only [List.append_assoc, List.cons_append] using hm) op hop
  have hbc : NoDp ty k (b ++ Op.flush t :: c) := List.forall_mem_append.2 ⟨hb, List.forall_mem_cons.2 ⟨rfl, hc⟩⟩
  constructor
  · rw [reported_after_dp cfg ty k a T d ha hb, all_not_expired_iff]
    exact hbf
  · rw [List.append_assoc, List.cons_append, reported_after_dp cfg ty k a T d ha hbc, Bool.eq_false_iff,
      Ne, all_not_expired_iff]
    exact fun h => h t (List.mem_append_right _ List.mem_cons_self) ht

example :
    let cfg : Config := fun _ => 5
    Nondecreasing ([] ++ Op.dp .set "s" 10 ⟨0, [1, 2]⟩ :: [Op.flush 15] ++ Op.flush 16 :: [Op.flush 17]) ∧
    NoDp .set "s" [Op.flush 15] ∧ (∀ g, Op.flush g ∈ [Op.flush 15] → ¬ (cfg .set ≠ 0 ∧ g - 10 > cfg .set)) ∧
    (cfg .set ≠ 0 ∧ (16 : Int) - 10 > cfg .set) := by
  refine ⟨by decide, by decide, ?_, by decide⟩
  intro g hg
  simp at hg
  subst hg
  decide

/-- **C09_zero_forever.**  With interval 0 a series that ever received a datapoint is reported by every
later flush. -/
theorem C09_zero_forever (cfg : Config) (ty : MType) (k : Key) (hz : cfg ty = 0)
    (a : List Op) (T : Int) (d : Dp) (b : List Op) (hm : Nondecreasing (a ++ Op.dp ty k T d :: b)) :
    reported cfg (a ++ Op.dp ty k T d :: b) ty k = true := by
  rw [C09_reported_eq_spec cfg _ hm]
  unfold specReported
  cases hl : lastDp ty k (a ++ Op.dp ty k T d :: b) with
  | none =>
    have := (lastDp_none_iff ty k _).1 hl (Op.dp ty k T d) (by simp)
    simp [Op.isDpFor] at this
  | some r => simp [hz]

example : (fun _ => 0 : Config) .gauge = 0 ∧
    reported (fun _ => 0) ([] ++ Op.dp .gauge "g" 1 ⟨7, []⟩ :: [Op.flush 5, Op.flush 1000000]) .gauge "g" = true := by
  decide

/-- **C09_negative_once.**  With a negative interval a series is reported exactly by the flush that
carries its data: it is in the view iff a datapoint of the series arrived since the last flush. -/
theorem C09_negative_once (cfg : Config) (ty : MType) (k : Key) (hneg : cfg ty < 0)
    (h : List Op) (hm : Nondecreasing h) :
    reported cfg h ty k = true ↔
      ∃ a T d b, h = a ++ Op.dp ty k T d :: b ∧ NoDp ty k b ∧ ∀ g, Op.flush g ∉ b := by
  rw [C09_reported_iff cfg h hm]
  constructor
  · rintro ⟨a, T, d, b, hh, hb, hf⟩
    refine ⟨a, T, d, b, hh, hb, ?_⟩
    intro g hg
    apply hf g hg
    have hle : T ≤ g := by
      subst hh
      have := (List.pairwise_append.1 hm).2.1
      have := (List.pairwise_cons.1 this).1 (Op.flush g) hg
      simpa [Op.time] using this
    exact ⟨Int.ne_of_lt hneg, Int.lt_of_lt_of_le hneg (Int.sub_nonneg_of_le hle)⟩
  · rintro ⟨a, T, d, b, hh, hb, hf⟩
    exact ⟨a, T, d, b, hh, hb, fun g hg => absurd hg (hf g)⟩

example :
    let cfg : Config := fun _ => -1
    cfg .counter < 0 ∧ reported cfg [Op.dp .counter "c" 3 ⟨1, []⟩] .counter "c" = true ∧
    reported cfg [Op.dp .counter "c" 3 ⟨1, []⟩, Op.flush 3] .counter "c" = false := by decide

/-- **C09_values.**  A series reported without new data since a flush shows its idle value:
counter 0 (hence rate 0), set empty, timer count 0 and no percentiles; a gauge shows exactly what the
earlier flush showed (its last value). -/
theorem C09_values (cfg : Config) (ty : MType) (k : Key) (pre : List Op) (t : Int) (mid : List Op)
    (hn : NoDp ty k mid) (vv : ViewVal)
    (hv : lookup k (viewAt cfg (pre ++ Op.flush t :: mid) ty) = some vv) :
    (ty = .counter → vv.num = 0) ∧ (ty = .set → vv.mem = []) ∧
    (ty = .timer → vv.num = 0 ∧ vv.pct = false) ∧
    (ty = .gauge → lookup k (viewAt cfg pre ty) = some vv) := by
  rw [lookup_viewAt] at hv
  obtain ⟨e', hs, rfl⟩ := Option.map_eq_some_iff.1 hv
  obtain ⟨e, he, rfl⟩ := persist_zeroed _ _ _ _ _ _ hn e' hs
  refine ⟨?_, ?_, ?_, ?_⟩ <;> rintro rfl
  · rfl
  · rfl
  · exact ⟨rfl, by simp [viewVal, zeroE]⟩
  · rw [lookup_viewAt, he]; rfl

example :
    let cfg : Config := fun _ => 100
    let h := [Op.dp .timer "t" 1 ⟨3, []⟩, Op.dp .gauge "t" 1 ⟨9, []⟩]
    lookup "t" (viewAt cfg h .timer) = some ⟨3, [], true⟩ ∧
    lookup "t" (viewAt cfg (h ++ Op.flush 2 :: [Op.flush 3]) .timer) = some ⟨0, [], false⟩ ∧
    lookup "t" (viewAt cfg (h ++ Op.flush 2 :: [Op.flush 3]) .gauge) = some ⟨9, [], false⟩ := by decide

set_option linter.unusedVariables false in
/-- **C09_gauge_last.**  "Last value": a gauge whose newest datapoint is strictly newer than its earlier
ones shows that datapoint's value for as long as it is reported. -/
theorem C09_gauge_last (cfg : Config) (k : Key) (a : List Op) (T : Int) (d : Dp) (b : List Op)
    (hm : Nondecreasing (a ++ Op.dp .gauge k T d :: b)) (hb : NoDp .gauge k b)
    (hstrict : ∀ op ∈ a, op.isDpFor .gauge k = true → op.time < T) (vv : ViewVal)
    (hv : lookup k (viewAt cfg (a ++ Op.dp .gauge k T d :: b) .gauge) = some vv) : vv.num = d.num := by
  rw [lookup_viewAt, srun_after_dp _ _ _ _ _ _ hb] at hv
  have hnum : (mergeE .gauge (srun (cfg .gauge) .gauge k a) T d).num = d.num := by
    cases hs : srun (cfg .gauge) .gauge k a with
    | none => rfl
    | some e₀ =>
      simp only [mergeE, srun_ts _ _ _ (· < T) a hstrict e₀ hs, if_true]
  split at hv
  · rw [← hnum, ← Option.some.inj hv]; split <;> rfl
  · cases hv

example :
    lookup "g" (viewAt (fun _ => 0) ([Op.dp .gauge "g" 1 ⟨4, []⟩] ++ Op.dp .gauge "g" 2 ⟨5, []⟩ :: [Op.flush 3, Op.flush 9]) .gauge)
      = some ⟨5, [], false⟩ := by decide

/-- **C09_per_type.**  Each type obeys its own interval: changing the intervals of the other types
changes nothing in this type's aggregate, hence in its views. -/
theorem C09_per_type (cfg cfg' : Config) (ty : MType) (hc : cfg ty = cfg' ty) (h : List Op) :
    viewAt cfg h ty = viewAt cfg' h ty := by
  simp only [viewAt, viewOf]
  rw [show run cfg h ty = run cfg' h ty from foldl_step_congr cfg cfg' ty hc h init init rfl]

example :
    let h := [Op.dp .counter "a" 1 ⟨1, []⟩, Op.dp .set "a" 1 ⟨0, [4]⟩, Op.flush 10, Op.flush 20]
    let cfg : Config := fun ty => match ty with | .counter => 5 | _ => 0
    let cfg' : Config := fun ty => match ty with | .counter => 5 | _ => -1
    viewAt cfg h .counter = viewAt cfg' h .counter ∧ viewAt cfg h .set ≠ viewAt cfg' h .set := by decide

/-- **C09_config_precedence.**  The interval a type obeys is its own setting when given, else the main
`expiry-interval` when given, else the default — whatever the other types' settings are. -/
theorem C09_config_precedence (d : Int) (main perType : Option Int) :
    Expiry.resolveInterval d main perType =
      match perType, main with
      | some p, _ => p
      | none, some m => m
      | none, none => d := by
  cases perType <;> cases main <;> rfl

end Gsd

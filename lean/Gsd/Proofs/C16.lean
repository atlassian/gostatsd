import Gsd.Model.Sender
import Gsd.Proofs.Lemmas.Sender
/-!
# C16 — each backend flush request completes exactly once under any transport fault

* **Sender** (`Gsd.Sender`, graphite / statsdaemon): theorems quantify over **all** scripts of the
  twelve atomic actions (`exec cfg init evs = some s`: every action of the script was enabled), i.e.
  over every interleaving of producers, connection outcomes, write outcomes, stream / context
  cancellation, the reconnect timer and the goroutine's own `select` choices, and over every
  `Cfg` (any `maxStreamsPerConnection`, pinned or repaired behaviour).
* **Collector** (`Gsd.Collector`, datadog / influxdb / newrelic): all schedules of `n` posters, the
  collector and `cancel`, for every `n` (0, 1, many).
* otlp / cloudwatch / stdout / null are straight-line: one call by construction.
* **Flusher** (`Gsd.Flusher`): every order of `sendMetricsAsync` calls and callbacks.

Two defects of the pinned sender are part of the model (see `Model/Sender.lean`): D11 (a held stream
overwritten through the stale `sink` variable — its callback is never invoked) and D12 (nil
dereference through the stale `streamCancel` variable); DESIGN.md's table of repaired defects lists the two as D12
and D13.  The theorems below are the true forms:
`exactly_once` excludes streams in the ghost list `lost`; `no_lost_callback_fixed` /
`no_panic_fixed` show that the two added assignments of `handoff/C16-fix-2.patch` remove both; the
`example`s at the end are the negative witnesses on the pinned configuration.  D9 (influxdb) is
`C16_influx_no_panic_fixed` + witness.  The repository under /repo carries all three repairs (commits 003196c,
5cd9a70), so the correspondence run (`Driver/C16.lean`) uses `fixedCfg` and the nil guard; `codeCfg` and
`processMetrics false` are the code before them.
-/
namespace Gsd
open Sender

/-- **At most once**: on every script, for every configuration, no stream's callback is invoked twice
(a second call would drive the flusher's WaitGroup negative). -/
theorem C16_sender_at_most_once (cfg : Cfg) (evs : List Ev) (s : St) (h : exec cfg init evs = some s) (j : Nat) :
    cbCount s j ≤ 1 := by
  calc cbCount s j ≤ places s j := Nat.le_add_left _ _
    _ ≤ 1 := by rw [(inv_exec evs (inv_init cfg) h).count.places j]; split <;> omega

/-- **Exactly once**: whenever the sender holds no stream and none is queued — after recovery
(`seeClosed`), after a stream cancellation in the reconnect wait, or after shutdown — every stream
ever offered has been called back exactly once, except those overwritten through the stale `sink`
(`lost`, empty on the repaired tree by `C16_sender_no_lost_callback_fixed`).  A stopped sender is in
such a state (second part), and it can be stopped from anywhere (`C16_sender_shutdown_completes`); an id not
yet offered has no callback (third part). -/
theorem C16_sender_exactly_once (cfg : Cfg) (evs : List Ev) (s : St) (h : exec cfg init evs = some s) :
    (s.held = none → s.queue = [] → ∀ j, j < s.next → j ∉ s.lost → cbCount s j = 1) ∧
    (s.pc = .stopped → s.held = none ∧ s.queue = []) ∧
    (∀ j, s.next ≤ j → cbCount s j = 0) := by
  have hi := (inv_exec evs (inv_init cfg) h).count
  refine ⟨?_, hi.stopped, ?_⟩
  · intro hh hq j hj hl
    simpa [places, cbCount, hh, hq, hj, List.count_eq_zero_of_not_mem hl] using hi.places j
  · exact fun j hj => Nat.eq_zero_of_add_eq_zero_left ((hi.places j).trans (if_neg (by omega)))

/-- On the repaired tree (`sink = nil` while a stream is held) no stream is ever overwritten, so
`exactly_once` covers every stream. -/
theorem C16_sender_no_lost_callback_fixed (cfg : Cfg) (hf : cfg.fixSink = true) (evs : List Ev) (s : St)
    (h : exec cfg init evs = some s) : s.lost = [] :=
  ((inv_exec evs (inv_init cfg) h).sink hf).1

/-- On the repaired tree (`streamCancel = nil` while no stream is held) the goroutine never panics. -/
theorem C16_sender_no_panic_fixed (cfg : Cfg) (hf : cfg.fixCancel = true) (evs : List Ev) (s : St)
    (h : exec cfg init evs = some s) : s.pc ≠ .panicked :=
  ((inv_exec evs (inv_init cfg) h).cancel hf).1

/-- **Never blocks**, as a possibility: from every reachable state that has not panicked the shutdown script `finScript`
(`cancelCtx`, the producer closing its `Buf`, a successful dial, and the goroutine's own reactions to them) is enabled
and ends in `stopped`, where every stream (not lost) has exactly one callback.  The environment has to do its part:
the theorem does not say that the goroutine stops whatever the producer does. -/
theorem C16_sender_shutdown_completes (cfg : Cfg) (hmax : 0 < cfg.max) (evs : List Ev) (s : St)
    (h : exec cfg init evs = some s) (hp : s.pc ≠ .panicked) :
    ∃ s', exec cfg init (evs ++ finScript cfg s) = some s' ∧ s'.pc = .stopped ∧
      ∀ j, j < s'.next → j ∉ s'.lost → cbCount s' j = 1 := by
  have hi := inv_exec evs (inv_init cfg) h
  obtain ⟨s', h1, h2⟩ := finScript_stops cfg hmax s hi.count hp
  have h3 : exec cfg init (evs ++ finScript cfg s) = some s' := by
    rw [exec_append, h]; exact h1
  refine ⟨s', h3, h2, ?_⟩
  have hx := C16_sender_exactly_once cfg _ s' h3
  obtain ⟨hh, hq⟩ := hx.2.1 h2
  exact hx.1 hh hq

/-- **Errors are carried**: (1) a write error that happened while stream j was held is in the error
list of j's callback (across any number of reconnects); (2) every callback that is *not* issued
because the stream's buffers were drained — cancellation in the reconnect wait, shutdown, cleanup —
carries a non-empty list.  (Connect errors are only logged by the code; they delay delivery and are
not in `errs`.) -/
theorem C16_sender_error_carried (cfg : Cfg) (evs : List Ev) (s : St) (h : exec cfg init evs = some s) :
    ∀ cb ∈ s.cbs, (cb.stream ∈ s.wfail → Err.write ∈ cb.errs) ∧ (cb.via ≠ .drained → cb.errs ≠ []) := by
  have hi := (inv_exec evs (inv_init cfg) h).errs
  intro cb hcb
  exact ⟨hi.wfailCb cb hcb, hi.viaErr cb hcb⟩

/-- For every number of batches `n` (0, 1, many) and every schedule of results, poster exits,
cancellation and the collector's own choice: the callback is invoked at most once; it has been
invoked (with the collected list) once the collector is done; before that some action is
always enabled (no deadlock); and every schedule has at most `n + 2` actions — so every maximal
schedule ends with exactly one callback. -/
theorem C16_collector_exactly_once (n : Nat) (evs : List Collector.Ev) (s : Collector.St)
    (h : Collector.exec (Collector.start n n) evs = some s) :
    s.cbs.length ≤ 1 ∧
    (s.done = true → s.cbs = [s.errs]) ∧
    (s.done = false → ∃ e, (Collector.step s e).isSome = true) ∧
    ((∀ e, Collector.step s e = none) → s.cbs.length = 1) ∧
    evs.length ≤ n + 2 := by
  have hi := Collector.cinv_exec evs (Collector.cinv_start n) h
  have hm := Collector.measure_exec evs h
  refine ⟨?_, hi.arg, Collector.progress hi, ?_, ?_⟩
  · rw [hi.once]; split <;> omega
  · intro hall
    cases hd : s.done with
    | true => rw [hi.once]; simp [hd]
    | false =>
      obtain ⟨e, he⟩ := Collector.progress hi hd
      rw [hall e] at he; simp at he
  · have : Collector.measure (Collector.start n n) ≤ n + 2 := by
      unfold Collector.start Collector.measure
      by_cases h0 : n = 0 <;> simp [h0, Collector.finish]
    omega

/-- Every result a poster delivered is in the collector's list `errs` — the callback's argument once the collector is
done, by `C16_collector_exactly_once` — and a cancellation seen by the collector adds the context error. -/
theorem C16_collector_error_carried (n : Nat) (evs : List Collector.Ev) (s : Collector.St)
    (h : Collector.exec (Collector.start n n) evs = some s) :
    (∀ r, Collector.Ev.deliver r ∈ evs → r ∈ s.errs) ∧ (Collector.Ev.seeCancel ∈ evs → Collector.Res.ctx ∈ s.errs) := by
  rw [Collector.errs_exec evs h]
  exact ⟨fun r hr => List.mem_append_right _ (List.mem_filterMap.mpr ⟨_, hr, rfl⟩),
    fun hr => List.mem_append_right _ (List.mem_filterMap.mpr ⟨_, hr, rfl⟩)⟩

/-- otlp, cloudwatch (any batch size, any number of data, any outcomes), stdout, null: exactly one
callback; cloudwatch's list has one entry per `PutMetricData` call (⌈length / batch⌉). -/
theorem C16_direct_exactly_once (batches : List Bool) (batch length : Nat) (outcome : Nat → Bool) (hb : 0 < batch) (w : Bool) :
    (Direct.otlp batches).length = 1 ∧
    (Direct.cloudwatch batch length outcome).length = 1 ∧
    (∀ l ∈ Direct.cloudwatch batch length outcome, l.length = (length + batch - 1) / batch) ∧
    (Direct.stdout w).length = 1 ∧ Direct.null.length = 1 := by
  refine ⟨rfl, ?_, ?_, rfl, rfl⟩
  · unfold Direct.cloudwatch; split <;> rfl
  · obtain ⟨p, rfl⟩ : ∃ p, batch = p + 1 := ⟨batch - 1, by omega⟩
    intro l hl
    unfold Direct.cloudwatch at hl
    split at hl
    · obtain rfl : length = 0 := by omega
      obtain rfl := List.mem_singleton.mp hl
      simpa using (Nat.div_eq_of_lt (Nat.lt_succ_self p)).symm
    · obtain rfl := List.mem_singleton.mp hl
      simpa using Direct.cwLoop_length_aux p length outcome length 0 0 [] length (Nat.zero_add _) (Nat.le_refl _)

/-- otlp reports an error exactly when some batch failed. -/
theorem C16_otlp_error_carried (batches : List Bool) :
    ∀ l ∈ Direct.otlp batches, (l ≠ [] ↔ ∃ b ∈ batches, b = false) := by
  intro l hl
  obtain rfl := List.mem_singleton.mp hl
  by_cases h : batches.all id = true <;> simp only [h] <;> simpa using h

/-- With the nil guard of `handoff/C16-fix-1.patch` `processMetrics` never dereferences a nil buffer,
whatever `getBuffer` returns; without it there is no panic as long as the context is not cancelled
(every `getBuffer` returns a buffer). -/
theorem C16_influx_no_panic_fixed (perBatch series : Nat) (gets : Nat → Bool) :
    Influx.processMetrics true perBatch series gets ≠ .panic ∧
    ((∀ k, gets k = true) → Influx.processMetrics false perBatch series gets ≠ .panic) := by
  unfold Influx.processMetrics
  refine ⟨?_, fun hg => ?_⟩
  · split; split <;> simp
  · -- every `getBuffer` succeeds, so the buffer is non-nil after the loop
    have h := Influx.addSeries_have perBatch gets hg series 0 0 1
    rw [hg 0]
    split
    next cnt b g hv heq =>
      obtain rfl : hv = true := by simpa [heq] using h
      split <;> simp [hg]

/-- `flushData`'s wait group: on every order of `sendMetricsAsync` calls and callbacks in which no
(aggregator, backend) pair calls back twice (guaranteed by the `at_most_once` theorems above), the
counter is zero — `sendWg.Wait()` returns — exactly when every backend of every processed aggregator
has called back; and the counter never goes negative. -/
theorem C16_flusher_returns (backends : Nat) (evs : List Flusher.Ev) (s : Flusher.St)
    (h : Flusher.exec backends {} evs = some s) (honce : s.calls.Nodup) :
    ((s.wg = 0 ∧ s.panicked = false) ↔ ∀ a ∈ s.processed, ∀ b, b < backends → (a, b) ∈ s.calls) ∧
    0 ≤ s.wg := by
  have hi := Flusher.finv_exec evs (Flusher.finv_init backends) h
  refine ⟨Flusher.wg_zero_iff hi honce, ?_⟩
  have hle := (Flusher.calls_subperm hi honce).length_le
  rw [Flusher.length_allPairs] at hle
  have := hi.wg
  omega

def sampleScript : List Ev :=
  [.connFail, .offer, .take, .timer, .connOk, .wrote true, .wrote false, .connFail, .timer, .connOk,
   .wrote true, .closeBuf 0, .seeClosed]

example : (exec codeCfg init sampleScript).map (fun s => (s.cbs, s.held, s.lost)) =
    some ([⟨0, [.write], .drained⟩], none, []) := by decide

example : ∃ s, exec codeCfg init sampleScript = some s ∧ s.held = none ∧ s.queue = [] ∧ cbCount s 0 = 1 := by
  refine ⟨_, rfl, ?_⟩; decide

/-- **D11 witness** (pinned tree): a wait that ends by the timer leaves `sink` armed; a later write
error followed by a failed dial lets a second stream overwrite the held one: stream 0 is never
called back, stream 1 inherits its error. -/
def d11Script : List Ev :=
  [.connFail, .timer, .connOk, .offer, .take, .wrote false, .offer, .connFail, .take, .timer, .connOk,
   .closeBuf 1, .seeClosed, .cancelCtx, .seeCtx]

example : (exec codeCfg init d11Script).map (fun s => (s.pc, s.lost, cbCount s 0, cbCount s 1)) =
    some (.stopped, [0], 0, 1) := by decide
/-- on the repaired tree the second `take` is disabled -/
example : exec fixedCfg init d11Script = none := by decide

/-- **D12 witness**: a stream that survived a reconnect wait leaves its `Done` channel in
`streamCancel`; after the connection is recycled (`max` streams) a failed dial with no held stream
followed by that stream's context being cancelled dereferences the nil `stream`. -/
def d12Script : List Ev :=
  [.connFail, .offer, .take, .timer, .connOk, .closeBuf 0, .seeClosed, .offer, .take, .closeBuf 1, .seeClosed,
   .connFail, .cancelStream 0, .seeStreamCancel]

example : (exec { max := 2 } init d12Script).map (·.pc) = some .panicked := by decide
example : exec { max := 2, fixCancel := true } init d12Script = none := by decide

/-- the same on the pinned configuration (`maxStreamsPerConnection` from `Facts`, 100 streams) -/
def d12ScriptPinned : List Ev :=
  [.connFail, .offer, .take, .timer, .connOk, .closeBuf 0, .seeClosed] ++
  ((List.range (Gsd.Facts.maxStreamsPerConnection - 1)).map (fun i => [Ev.offer, .take, .closeBuf (i + 1), .seeClosed])).flatten ++
  [.connFail, .cancelStream 0, .seeStreamCancel]

/-- D12 is reachable on the pinned tree -/
theorem C16_sender_D12_witness : (exec codeCfg init d12ScriptPinned).map (·.pc) = some .panicked := by
  decide +kernel

/-- D11 is reachable on the pinned tree: stream 0 is lost, the sender has stopped, 0 callbacks for it -/
theorem C16_sender_D11_witness :
    (exec codeCfg init d11Script).map (fun s => (s.pc, s.lost, cbCount s 0)) = some (.stopped, [0], 0) := by
  decide

example : (Collector.exec (Collector.start 3 3) [.deliver .ok, .deliver .fail, .cancel, .seeCancel, .quit]).map
    (fun s => (s.cbs, s.done)) = some ([[.ok, .fail, .ctx]], true) := by decide
/-- a collector that waits for one result more than there are posters never calls back unless the
context is cancelled (why the loop bound must be the number of posters) -/
example : (Collector.exec (Collector.start 3 2) [.deliver .ok, .deliver .ok]).map
    (fun s => (s.cbs, s.done, [Collector.Ev.deliver .ok, .quit, .seeCancel].map (fun e => (Collector.step s e).isSome))) =
    some ([], false, [false, false, false]) := by decide
example : (Collector.start 0 0).cbs = [[]] := by decide

/-- **D9 witness**: context already cancelled, `getBuffer` returns nil → `releaseBuffer(nil)` -/
example : Influx.processMetrics false 1 0 (fun _ => false) = .panic := by decide
example : Influx.processMetrics false 1 3 (fun k => k == 0) = .panic := by decide
example : Influx.processMetrics true 1 3 (fun k => k == 0) = .batches 1 := by decide

example : (Flusher.exec 2 {} [.process 0, .callback 0 1, .process 1, .callback 1 0, .callback 0 0, .callback 1 1]).map
    (fun s => (s.wg, Flusher.returns 2 s)) = some (0, true) := by decide
/-- a second call from one pair hides a missing one (why at-most-once is a hypothesis) -/
example : (Flusher.exec 2 {} [.process 0, .callback 0 1, .callback 0 1]).map (fun s => (s.wg, s.calls.Nodup)) =
    some (0, False) := by
  simp [Flusher.exec, Flusher.step]

end Gsd

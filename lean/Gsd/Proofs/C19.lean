import Gsd.Proofs.Lemmas.Events
/-!
# C19 — every event is delivered once to every backend with its fields intact

Part A: the composition of the per-stage event functions, for **every** event line of the grammar
(any list of fields, repeated fields included), every sender address, receive time, static tag list and
lookup outcome.

Part B: the fan-out of `BackendHandler.DispatchEvent` (and of the forwarder's `DispatchEvent`, the
instance `nb = 1`, unbounded semaphore) as a transition system; every statement is an invariant over
**all** action sequences (`run (init nb cap det) acts = some s`), i.e. all interleavings of any number
of senders, lookups, deliveries and a waiter, for every number of backends `nb ≥ 0` and every semaphore
capacity.  `det = true` says the delivery goroutines use a context detached from the caller's: so do
`BackendHandler` and the forwarder (`backendHandlerDetached`, `forwarderDetached`); `det = false` is what a
forwarder that hands the request context to its post would do — defect D10, witness below.
-/
namespace Gsd
open Gsd.Events

/-- **C19_fields.**  A network-borne event line comes out of parser → cloud stage → tag stage with
title and text as sent; the declared time, or the receive time when none (or 0) was declared; the last
declared aggregation key and source type; low priority iff a `p:low` field is present; the last
non-info alert type; as tags exactly (no repetition) the line's tags, the static tags and — after a
successful lookup — the instance's tags; as source the instance id after a successful lookup, else the
sender address (a `h:` field never survives). -/
theorem C19_fields (now : Int) (ip : Bytes) (static : List Bytes) (look : Option Instance) (l : EventLine) :
    let out := pipelineUDP now ip static look l
    out.title = l.title ∧ out.text = l.text ∧
    out.date = (match lastOf dateOf l.attrs with
                | some d => if d = 0 then now else d
                | none => now) ∧
    out.key = (lastOf keyOf l.attrs).getD [] ∧
    out.srcType = (lastOf srcTypeOf l.attrs).getD [] ∧
    out.prio = (if Attr.prio 1 ∈ l.attrs then 1 else 0) ∧
    out.alert = (lastOf alertOf l.attrs).getD 0 ∧
    out.tags.Nodup ∧
    (∀ t, t ∈ out.tags ↔ t ∈ lineTags l.attrs ∨ t ∈ lookTags look ∨ t ∈ static) ∧
    out.source = (match look with | some i => i.id | none => ip) := by
  intro out
  have hout : out = _ := tagEvent_cloudEvent static look (parseEvent now ip (lexedOf l))
  have ht := uniqueTags_static ((lexedOf l).tags ++ lookTags look) static
  rw [hout]
  refine ⟨lexedOf_title l, lexedOf_text l, ?_, lexedOf_key l, lexedOf_srcType l, lexedOf_prio l, lexedOf_alert l,
    ht.1, fun t => (ht.2 t).trans (by rw [List.mem_append, or_assoc, lexedOf_tags]), rfl⟩
  show (if (lexedOf l).date = 0 then now else (lexedOf l).date) = _
  rw [lexedOf_date]; cases lastOf dateOf l.attrs <;> rfl

/-- non-vacuity / concrete reading of `C19_fields`: repeated fields, an empty tag, `p:normal` after
`p:low`, `d:0`, a duplicate of a static tag, a successful lookup. -/
example :
    pipelineUDP 1700000000 [49] [[97], [122], [97]] (some ⟨[105], [[99], [116]]⟩)
      { title := [84], text := [10],
        attrs := [.date 5, .host [104], .tags [[116], [], [97]], .prio 1, .prio 0, .alert 2, .alert 0, .date 0, .key [107], .other] }
    = { title := [84], text := [10], date := 1700000000, key := [107], srcType := [],
        tags := [[116], [97], [99], [122]], source := [105], prio := 1, alert := 2 } := by decide

/-- **C19_fields_http.**  The same for an event received on `/v2/event`: the message's fields are kept
(enum values outside the known range become normal / info; the time is kept as sent — no receive-time
default on this path), tags and source as above with the message's hostname as sender. -/
theorem C19_fields_http (static : List Bytes) (look : Option Instance) (m : PBEvent) :
    let out := pipelineHTTP static look m
    out.title = m.title ∧ out.text = m.text ∧ out.date = m.date ∧ out.key = m.key ∧ out.srcType = m.srcType ∧
    out.prio = (if m.prio = 1 then 1 else 0) ∧
    out.alert = (if m.typ = 1 then 1 else if m.typ = 2 then 2 else if m.typ = 3 then 3 else 0) ∧
    out.tags.Nodup ∧
    (∀ t, t ∈ out.tags ↔ t ∈ m.tags ∨ t ∈ lookTags look ∨ t ∈ static) ∧
    out.source = (match look with | some i => i.id | none => m.hostname) := by
  intro out
  have hout : out = _ := tagEvent_cloudEvent static look (fromPBEvent m)
  have ht := uniqueTags_static ((fromPBEvent m).tags ++ lookTags look) static
  rw [hout]
  exact ⟨rfl, rfl, rfl, rfl, rfl, rfl, rfl, ht.1, fun t => (ht.2 t).trans (by rw [List.mem_append, or_assoc]; rfl), rfl⟩

/-- **C19_forwarded.**  Forwarder mode: what the upstream server decodes from the forwarder's message is
the event itself, whenever priority and alert type are in range — which they are after either pipeline
(`C19_forwarded_http`; `C19_forwarded_udp`, for a line whose `t:` fields are among the four the lexer knows). -/
theorem C19_forwarded (e : Event) (hp : e.prio ≤ 1) (ha : e.alert ≤ 3) : forwarded e = e := by
  obtain ⟨t, x, d, k, s, tg, so, p, a⟩ := e
  simp only at hp ha
  have hp' : p = 0 ∨ p = 1 := by omega
  have ha' : a = 0 ∨ a = 1 ∨ a = 2 ∨ a = 3 := by omega
  rcases hp' with rfl | rfl <;> rcases ha' with rfl | rfl | rfl | rfl <;> rfl

theorem C19_forwarded_http (static : List Bytes) (look : Option Instance) (m : PBEvent) :
    forwarded (pipelineHTTP static look m) = pipelineHTTP static look m := by
  obtain ⟨_, _, _, _, _, hp, ha, _⟩ := C19_fields_http static look m
  exact C19_forwarded _ (by rw [hp]; exact (fromPBEvent_range m).1) (by rw [ha]; exact (fromPBEvent_range m).2)

theorem C19_forwarded_udp (now : Int) (ip : Bytes) (static : List Bytes) (look : Option Instance) (l : EventLine)
    (hl : ∀ a, Attr.alert a ∈ l.attrs → a ≤ 3) :
    forwarded (pipelineUDP now ip static look l) = pipelineUDP now ip static look l := by
  obtain ⟨_, _, _, _, _, hp, ha, _⟩ := C19_fields now ip static look l
  apply C19_forwarded
  · rw [hp]; split <;> omega
  · rw [ha]
    cases hv : lastOf alertOf l.attrs with
    | none => exact Nat.zero_le 3
    | some v =>
      obtain ⟨a, hmem, hf⟩ := lastOf_mem hv
      exact hl v (alertOf_eq_some hf ▸ hmem)

/-- **C19_wg_inv.**  In every reachable state `eventWg` is the number of (event, backend) pairs that the
code still counts — the backends not yet visited of every event inside `DispatchEvent` plus every
spawned goroutine that has not called `Done`; the cancel path removes exactly the unvisited ones —,
the cloud stage's `wg` is the number of parked events not yet handed on, and the semaphore holds one
token per goroutine between its creation and its deferred receive, never more than its capacity. -/
theorem C19_wg_inv {nb cap : Nat} {det : Bool} {s : St} (h : Reachable nb cap det s) :
    s.wg = total (pending nb) s.evs ∧ s.cwg = total parkedShare s.evs ∧
    s.sem = total held s.evs ∧ 0 ≤ s.sem ∧ s.sem ≤ cap := by
  obtain ⟨inv, rfl, rfl, -⟩ := reachable_inv h
  exact ⟨inv.wg, inv.cwg, inv.sem, by rw [inv.sem]; omega, inv.cap⟩

/-- **C19_fanout_once.**  In every reachable state of every schedule, `SendEvent(e, b)` has been called
at most once for every pair; never for a backend index that does not exist or an event that was not
accepted; and — with detached delivery contexts — exactly once, and finished, for every backend the
dispatch loop has passed (`b < cursor`) as soon as the event's share of the wait group is 0.  The loop
passes all `nb` backends unless it took the cancel path (`C19_fanout_complete`). -/
theorem C19_fanout_once {nb cap : Nat} {det : Bool} {s : St} (h : Reachable nb cap det s) (e b : Nat) :
    countPair (e, b) s.dl ≤ 1 ∧
    (nb ≤ b → countPair (e, b) s.dl = 0) ∧
    (s.evs[e]? = none → countPair (e, b) s.dl = 0) ∧
    (det = true → ∀ ev, s.evs[e]? = some ev → b < ev.cursor → pending nb ev = 0 →
        countPair (e, b) s.dl = 1 ∧ ev.bs[b]? = some .done) := by
  obtain ⟨inv, rfl, -, rfl⟩ := reachable_inv h
  have hdl := inv.dl e b
  refine ⟨?_, ?_, ?_, ?_⟩
  · rw [hdl]
    cases s.evs[e]? with
    | none => exact Nat.zero_le 1
    | some ev => exact dflag_le_one ev b
  · intro hb
    rw [hdl]
    cases hev : s.evs[e]? with
    | none => rfl
    | some ev =>
      have wf := inv.wf ev (List.mem_of_getElem? hev)
      exact dflag_eq_zero_of_le (wf.len ▸ hb)
  · intro hnone
    rw [hdl, hnone]
  · intro hd ev hev hb hp
    have wf := inv.wf ev (List.mem_of_getElem? hev)
    obtain ⟨st, hst, hne⟩ := wf.busy b hb
    have hact : cnt BSt.active ev.bs = 0 := by unfold pending at hp; omega
    have hna := cnt_eq_zero _ _ hact b st hst
    have hnd : st ≠ .dropped := fun h => wf.nodrop hd b (h ▸ hst)
    have : st = .done := by
      revert hne hna hnd
      cases st <;> decide
    subst this
    refine ⟨?_, hst⟩
    rw [hdl, hev]
    simp [dflag, hst, BSt.delivered]

/-- **C19_fanout_complete.**  An event whose `DispatchEvent` returned normally (no cancellation) and whose
goroutines have all finished has been handed exactly once to each of the `nb` backends. -/
theorem C19_fanout_complete {nb cap : Nat} {s : St} (h : Reachable nb cap true s) (e : Nat) (ev : Ev)
    (hev : s.evs[e]? = some ev) (hret : ev.stage = .returned) (hp : pending nb ev = 0) :
    ∀ b, b < nb → countPair (e, b) s.dl = 1 := by
  intro b hb
  obtain ⟨inv, rfl, -, -⟩ := reachable_inv h
  have hc := (inv.wf ev (List.mem_of_getElem? hev)).returned hret
  exact ((C19_fanout_once h e b).2.2.2 rfl ev hev (by omega) hp).1

/-- **C19_wait_sound.**  `WaitForEvents` (cloud stage's `wg.Wait()` followed by the backend handler's
`eventWg.Wait()`) can return only when every event accepted before the wait began — hit or parked,
whatever the interleaving with senders that are still active — has left the cloud stage and has been
handed, to completion and exactly once, to every backend its dispatch loop reached; the loop reached
all `nb` backends unless it took the cancel path. -/
theorem C19_wait_sound {nb cap : Nat} {s : St} (h : Reachable nb cap true s) (hw : s.waiter = .returned) :
    ∀ e, e < s.waitFrom → ∃ ev, s.evs[e]? = some ev ∧ ev.stage ≠ .parked ∧
      (ev.stage ≠ .cancelled → ev.cursor = nb) ∧
      ∀ b, b < ev.cursor → ev.bs[b]? = some .done ∧ countPair (e, b) s.dl = 1 := by
  intro e he
  obtain ⟨inv, rfl, -, -⟩ := reachable_inv h
  obtain ⟨ev, hev⟩ : ∃ ev, s.evs[e]? = some ev := ⟨_, List.getElem?_eq_getElem (Nat.lt_of_lt_of_le he inv.wle)⟩
  have hnp := inv.w1 (by rw [hw]; decide) e ev hev he
  have hp := inv.w2 hw e ev hev he
  have wf := inv.wf ev (List.mem_of_getElem? hev)
  refine ⟨ev, hev, hnp, ?_, ?_⟩
  · intro hnc
    cases hs : ev.stage with
    | parked => exact absurd hs hnp
    | cancelled => exact absurd hs hnc
    | returned => exact wf.returned hs
    | dispatching =>
      simp only [pending, hs] at hp
      have := wf.cur
      omega
  · intro b hb
    have := (C19_fanout_once h e b).2.2.2 rfl ev hev hb hp
    exact ⟨this.2, this.1⟩

example :
    (run (init 2 1) [.arriveHit, .ev 0 .acquire, .ev 0 (.start 0), .ev 0 (.finish 0), .ev 0 (.release 0),
        .ev 0 .acquire, .ev 0 .ret, .ev 0 (.done 0), .ev 0 (.start 1), .ev 0 (.finish 1), .ev 0 (.release 1),
        .ev 0 (.done 1), .waitCloud, .waitBackend]).map (fun s => (s.waiter, s.dl, s.wg, s.sem))
      = some (.returned, [(0, 0), (0, 1)], 0, 0) := by decide

example : run (init 2 1) [.arriveHit, .ev 0 .acquire, .ev 0 .acquire] = none := by decide

example : run (init 1 1) [.arriveMiss, .waitCloud] = none := by decide
example :
    (run (init 1 1) [.arriveMiss, .ev 0 .lookup, .ev 0 .acquire, .ev 0 .ret, .ev 0 .cloudDone, .waitCloud,
        .ev 0 (.start 0), .ev 0 (.finish 0), .ev 0 (.release 0)]).bind (fun s => step s .waitBackend) = none := by decide

example :
    (run (init 3 2) [.arriveHit, .ev 0 .acquire, .ev 0 .cancel, .ev 0 (.start 0), .ev 0 (.finish 0),
        .ev 0 (.release 0), .ev 0 (.done 0), .waitCloud, .waitBackend]).map (fun s => (s.waiter, s.dl, s.wg))
      = some (.returned, [(0, 0)], 0) := by decide

/-- **Defect D10 (negative witness).**  With a delivery context that is NOT detached from the caller's
(`det = false`: `HttpForwarderHandlerV2.DispatchEvent` posting with the request context, one upstream, no
semaphore; the code detaches it with `context.WithoutCancel`, `Gsd.Events.forwarderDetached = true`), there is
a schedule in which the event is accepted, `WaitForEvents` returns, and the upstream never received the event. -/
example :
    (run (init 1 1000000 false) [.arriveHit, .ev 0 .acquire, .ev 0 .ret, .ev 0 (.abort 0), .waitCloud, .waitBackend]).map
        (fun s => (s.waiter, s.dl, s.wg)) = some (.returned, [], 0) := by decide

/-- once the context is detached the `abort` step is disabled -/
example : run (init 1 1000000 true) [.arriveHit, .ev 0 .acquire, .ev 0 .ret, .ev 0 (.abort 0)] = none := by decide

end Gsd

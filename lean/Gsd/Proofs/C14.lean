import Gsd.Proofs.Lemmas.Forward
/-!
# C14 — what a forwarder encodes is what the ingesting server decodes

`α` (the float type) is arbitrary: no arithmetic happens on the way, values
are copied.  `MMap.WF` = a Go map holds every series key once ("well-formed keys").  The wire codec
and the compressors are parameters (`Lib`); `C14_end_to_end_partial` names the only hypotheses about them.
-/
namespace Gsd
open AList

variable {α : Type}

/-- **C14_roundtrip.**  For every map with well-formed keys, every series identity `k` and every
receiver clock value `now`: the decoded map holds, under the *same* key (the tagsKey is carried, not
recomputed), the same series with the same tags (incl. the empty list), the same source (incl. the
empty one), the same counter / gauge value, the timer's values in the same order and its sampled
count, the set's members — only the timestamp is the receiver's.  Nothing else is in the decoded map
(a key absent from the input is absent from the output). -/
theorem C14_roundtrip (now : Int) (m : MM α) (hm : m.WF) (k : Key) :
    lookup k (fromPB now (toPB m)).counters = (lookup k m.counters).map (Counter.restamp now) ∧
    lookup k (fromPB now (toPB m)).gauges   = (lookup k m.gauges).map (Gauge.restamp now) ∧
    lookup k (fromPB now (toPB m)).timers   = (lookup k m.timers).map (Timer.restamp now) ∧
    lookup k (fromPB now (toPB m)).sets     = (lookup k m.sets).map (SetV.restamp now) := by
  obtain ⟨h1, h2, h3, h4⟩ := hm
  simp only [fromPB, toPB]
  refine ⟨?_, ?_, ?_, ?_⟩
  · rw [lookup_unnest_nest _ _ _ h1]; rfl
  · rw [lookup_unnest_nest _ _ _ h3]; rfl
  · rw [lookup_unnest_nest _ _ _ h2]; rfl
  · rw [lookup_unnest_nest _ _ _ h4]; rfl

/-- the decoded map is again a well-formed map (no series twice), whatever the input -/
theorem C14_roundtrip_wf (now : Int) (m : MM α) : (fromPB now (toPB m)).WF :=
  ⟨nodupKeys_unnest _ _ (wf_nest _ _), nodupKeys_unnest _ _ (wf_nest _ _),
   nodupKeys_unnest _ _ (wf_nest _ _), nodupKeys_unnest _ _ (wf_nest _ _)⟩

/-- **C14_fields.**  What "modulo timestamps" means, field by field: `restamp` changes nothing but the
timestamp; for sets the members are the same *set*, and the same list when the input had no duplicates
(a Go `map[string]struct{}` never has). -/
theorem C14_fields (now : Int) (c : Counter) (g : Gauge α) (t : Timer α) (s : SetV) :
    ((c.restamp now).value = c.value ∧ (c.restamp now).src = c.src ∧ (c.restamp now).tags = c.tags ∧ (c.restamp now).ts = now) ∧
    ((g.restamp now).value = g.value ∧ (g.restamp now).src = g.src ∧ (g.restamp now).tags = g.tags ∧ (g.restamp now).ts = now) ∧
    ((t.restamp now).values = t.values ∧ (t.restamp now).sampled = t.sampled ∧ (t.restamp now).src = t.src ∧
      (t.restamp now).tags = t.tags ∧ (t.restamp now).ts = now) ∧
    ((∀ x, x ∈ (s.restamp now).members ↔ x ∈ s.members) ∧ (s.members.Nodup → (s.restamp now).members = s.members) ∧
      (s.restamp now).members.Nodup ∧ (s.restamp now).src = s.src ∧ (s.restamp now).tags = s.tags ∧ (s.restamp now).ts = now) := by
  refine ⟨⟨rfl, rfl, rfl, rfl⟩, ⟨rfl, rfl, rfl, rfl⟩, ⟨rfl, rfl, rfl, rfl, rfl⟩, ?_, ?_, ?_, rfl, rfl, rfl⟩
  · intro x; simp [SetV.restamp, mem_setUnion]
  · intro h; simp [SetV.restamp, setUnion_of_nodup [] _ h]
  · exact nodup_setUnion _ _ List.nodup_nil

/-- **C14_keys.**  Same series keys: a key is in the decoded map iff it was in the input (per type). -/
theorem C14_keys (now : Int) (m : MM α) (hm : m.WF) (k : Key) :
    ((lookup k (fromPB now (toPB m)).counters).isSome = (lookup k m.counters).isSome) ∧
    ((lookup k (fromPB now (toPB m)).gauges).isSome = (lookup k m.gauges).isSome) ∧
    ((lookup k (fromPB now (toPB m)).timers).isSome = (lookup k m.timers).isSome) ∧
    ((lookup k (fromPB now (toPB m)).sets).isSome = (lookup k m.sets).isSome) := by
  obtain ⟨a, b, c, d⟩ := C14_roundtrip now m hm k
  rw [a, b, c, d]
  simp

/-- **C14_event_roundtrip.**  All nine fields of an event survive; the two enums are normalised to
their defaults when (and only when) they were outside their range — for in-range values the event
is returned unchanged. -/
theorem C14_event_roundtrip (e : Event) :
    eventFromPB (eventToPB e) =
      { e with priority := if e.priority = 1 then 1 else 0,
               alert := if e.alert = 1 ∨ e.alert = 2 ∨ e.alert = 3 then e.alert else 0 } ∧
    (e.priority ≤ 1 → e.alert ≤ 3 → eventFromPB (eventToPB e) = e) := by
  have hp : priFromPB (priToPB e.priority) = if e.priority = 1 then 1 else 0 := by
    unfold priFromPB priToPB; split <;> simp
  have ha : alertFromPB (alertToPB e.alert) = if e.alert = 1 ∨ e.alert = 2 ∨ e.alert = 3 then e.alert else 0 := by
    have : e.alert = 1 ∨ e.alert = 2 ∨ e.alert = 3 ∨ e.alert ≠ 1 ∧ e.alert ≠ 2 ∧ e.alert ≠ 3 := by omega
    rcases this with h | h | h | h <;> simp [alertFromPB, alertToPB, h]
  refine ⟨?_, fun h1 h2 => ?_⟩ <;> simp only [eventFromPB, eventToPB, hp, ha]
  rw [show (if e.priority = 1 then 1 else 0) = e.priority by split <;> omega,
    show (if e.alert = 1 ∨ e.alert = 2 ∨ e.alert = 3 then e.alert else 0) = e.alert by split <;> omega]

/-- **C14_event_enums_total.**  Whatever enum numbers arrive on the wire (proto3 enums are open), the
decoded event carries values of the two Go enums; known numbers map to themselves. -/
theorem C14_event_enums_total (p : PBEvent) :
    (eventFromPB p).priority ≤ 1 ∧ (eventFromPB p).alert ≤ 3 ∧
    (p.priority = 0 ∨ p.priority = 1 → ((eventFromPB p).priority : Int) = p.priority) ∧
    (0 ≤ p.type ∧ p.type ≤ 3 → ((eventFromPB p).alert : Int) = p.type) := by
  -- the decoders tell 1, resp. 1, 2 and 3, from everything else
  have hp : p.priority = 1 ∨ p.priority ≠ 1 := by omega
  have ht : p.type = 1 ∨ p.type = 2 ∨ p.type = 3 ∨ p.type ≠ 1 ∧ p.type ≠ 2 ∧ p.type ≠ 3 := by omega
  refine ⟨?_, ?_, ?_, ?_⟩
  · rcases hp with h | h <;> simp [eventFromPB, priFromPB, h]
  · rcases ht with h | h | h | h <;> simp [eventFromPB, alertFromPB, h]
  · rcases hp with h | h <;> simp [eventFromPB, priFromPB, h] <;> omega
  · rcases ht with h | h | h | h <;> simp [eventFromPB, alertFromPB, h] <;> omega

/-- **C14_bad_body.**  The ingestion handler, for every request and every behaviour of the three
library calls: if the body cannot be read, the `Content-Encoding` is unknown, decompression fails or
the message does not unmarshal, the answer is a 4xx/5xx status and **nothing** is dispatched;
otherwise the decoded message is dispatched exactly once and the answer is 2xx. -/
theorem C14_bad_body {Msg Out : Type} (lib : Lib Msg) (tr : Msg → Out) (rq : Request) :
    match decodes lib rq with
    | none => 400 ≤ (ingest lib tr rq).1 ∧ (ingest lib tr rq).1 < 600 ∧ (ingest lib tr rq).2 = []
    | some msg => 200 ≤ (ingest lib tr rq).1 ∧ (ingest lib tr rq).1 < 300 ∧ (ingest lib tr rq).2 = [tr msg] := by
  rw [ingest_eq]
  cases decodes lib rq with
  | none => by_cases h : rq.body = none <;> simp [h]
  | some msg => simp

/-- which failures there are: the request decodes iff the body was read, the encoding is one of
`deflate` / `lz4` / `identity` / absent, the selected decompressor succeeds and unmarshal succeeds -/
theorem C14_decodes_iff {Msg : Type} (lib : Lib Msg) (rq : Request) (msg : Msg) :
    decodes lib rq = some msg ↔
      ∃ b, rq.body = some b ∧
        ((rq.encoding = zlibEncoding ∧ ∃ x, lib.inflate b = some x ∧ lib.unmarshal x = some msg) ∨
         (rq.encoding = lz4Encoding ∧ ∃ x, lib.lz4d b = some x ∧ lib.unmarshal x = some msg) ∨
         ((rq.encoding = "identity" ∨ rq.encoding = "") ∧ lib.unmarshal b = some msg)) := by
  obtain ⟨body, enc⟩ := rq
  cases body with
  | none => simp [decodes, readBody_none]
  | some b =>
    simp only [decodes, Option.some.injEq, exists_eq_left']
    by_cases h1 : enc = zlibEncoding
    · subst h1
      have hz : ¬ zlibEncoding = lz4Encoding := by decide
      have hi : ¬ (zlibEncoding = "identity" ∨ zlibEncoding = "") := by decide
      rw [readBody_zlib]; cases lib.inflate b <;> simp [hz, hi]
    by_cases h2 : enc = lz4Encoding
    · subst h2
      have hi : ¬ (lz4Encoding = "identity" ∨ lz4Encoding = "") := by decide
      rw [readBody_lz4]; cases lib.lz4d b <;> simp [h1, hi]
    by_cases h3 : enc = "identity" ∨ enc = ""
    · rw [readBody_identity lib b enc h3]; simp [h1, h2, h3]
    · rw [readBody_other lib b enc h1 h2 h3]; simp [h1, h2, h3]

/-- **C14_end_to_end_partial.**  The two halves composed, for every compression setting and level.
*Partial*: the wire codec and the compressors are not modelled; the theorem names what is assumed of
them — on this message `unmarshal ∘ marshal` is the identity, and each decompressor inverts its
compressor at the configured level (these are what the correspondence run exercises with the real
libraries).  Then a non-empty map handed to the forwarder produces one request that the ingesting
server answers with 202 and whose single dispatched map is `fromPB now (toPB m)` (C14_roundtrip),
with the `Content-Encoding` the configuration prescribes. -/
theorem C14_end_to_end_partial (lib : Lib (PBMap α)) (cfg : FwdCfg) (now : Int) (m : MM α)
    (hne : m.isEmpty = false) (raw : Bytes)
    (hmar : lib.marshal (toPB m) = some raw) (hun : lib.unmarshal raw = some (toPB m))
    (hz : ∀ z, lib.deflate cfg.level raw = some z → lib.inflate z = some raw)
    (hl : ∀ z, lib.lz4c cfg.level raw = some z → lib.lz4d z = some raw)
    (hzc : ∃ z, lib.deflate cfg.level raw = some z) (hlc : ∃ z, lib.lz4c cfg.level raw = some z) :
    ∃ body, forwardMap lib cfg m = some (contentEncoding cfg, body) ∧
      ingest lib (fromPB now) { body := some body, encoding := contentEncoding cfg } = (202, [fromPB now (toPB m)]) := by
  unfold forwardMap constructPost contentEncoding
  simp only [hne, hmar, ingest_eq, decodes]
  by_cases hc : (cfg.compress && cfg.ctype != CType.none) = true
  · simp only [hc, if_true]
    by_cases hl4 : cfg.ctype = CType.lz4
    · obtain ⟨z, hz'⟩ := hlc
      exact ⟨z, by simp [hl4, hz'], by simp [hl4, readBody_lz4, hl z hz', hun]⟩
    · obtain ⟨z, hz'⟩ := hzc
      exact ⟨z, by simp [hl4, hz'], by simp [hl4, readBody_zlib, hz z hz', hun]⟩
  · simp only [hc]
    exact ⟨raw, by simp, by simp [readBody_identity, hun]⟩

/-- a concrete map with all four types, an empty tag list, an empty source, a timer whose sampled count
differs from its number of values, and a tagsKey that is *not* the one derived from the tags -/
example :
    let m : MM Int :=
      { counters := [(("c", "t:1,s:h"), { value := 9223372036854775807, ts := 5, src := "h", tags := ["t:1"] }),
                     (("c", ""), { value := -3, ts := 6, src := "", tags := [] })],
        gauges := [(("g", "odd-key"), { value := -7, ts := 7, src := "", tags := ["a", "b"] })],
        timers := [(("t", ""), { values := [3, 1, 2], sampled := 30, ts := 8, src := "", tags := [] })],
        sets := [(("s", ""), { members := ["x", ""], ts := 9, src := "", tags := [] })] }
    m.WF ∧
    (lookup ("c", "t:1,s:h") (fromPB 100 (toPB m)).counters) = some { value := 9223372036854775807, ts := 100, src := "h", tags := ["t:1"] } ∧
    (lookup ("g", "odd-key") (fromPB 100 (toPB m)).gauges).map (fun g => (g.value, g.tags)) = some (-7, ["a", "b"]) ∧
    (lookup ("t", "") (fromPB 100 (toPB m)).timers).map (fun t => (t.values, t.sampled)) = some ([3, 1, 2], 30) ∧
    (lookup ("s", "") (fromPB 100 (toPB m)).sets).map (·.members) = some ["x", ""] := by
  refine ⟨⟨by decide, by decide, by decide, by decide⟩, by decide, by decide, by decide, by decide⟩

example :
    let e : Event := { title := "t", text := "x\ny", date := 12, aggKey := "k", srcType := "s", tags := ["a"], source := "h",
                       priority := 1, alert := 3 }
    eventFromPB (eventToPB e) = e ∧
    (eventFromPB (eventToPB { e with priority := 7, alert := 200 })) = { e with priority := 0, alert := 0 } ∧
    (eventFromPB { eventToPB e with priority := -1, type := 99 }).priority = 0 := by
  refine ⟨by decide, by decide, by decide⟩

example :
    let lib : Lib Nat := { marshal := fun _ => none, unmarshal := fun b => if b = [1] then some 7 else none,
                           deflate := fun _ _ => none, inflate := fun b => if b = [9] then some [1] else none,
                           lz4c := fun _ _ => none, lz4d := fun _ => none }
    ingest lib id { body := some [9], encoding := "deflate" } = (202, [7]) ∧
    ingest lib id { body := some [9], encoding := "lz4" } = (400, []) ∧
    ingest lib id { body := some [9], encoding := "" } = (400, []) ∧
    ingest lib id { body := some [1], encoding := "identity" } = (202, [7]) ∧
    ingest lib id { body := some [1], encoding := "gzip" } = (400, []) ∧
    ingest lib id { body := none, encoding := "identity" } = (500, []) := by
  refine ⟨by decide, by decide, by decide, by decide, by decide, by decide⟩

end Gsd

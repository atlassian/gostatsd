import Gsd.Proofs.Lemmas.Tags
/-!
# C10 — static tags, tag de-duplication and filters follow the documented rules

The vocabulary (`Satisfied`, `DropsMetric`, `ClearsHost`, `Removed`) is FILTERING.md's.  `Removed` speaks of the
metric's own tags only: static tags are not looked at by `match-tags` / `drop-tags`, and a static tag equal to a
removed tag is not re-added.  `re` is the regexp oracle; tag lists may have repetitions.
-/
namespace Gsd.Tags
open Gsd AList

variable (re : String → String → Bool)

def Satisfied (f : Filter) (name : String) (tags : List String) : Prop :=
  (f.matchMetrics = [] ∨ ∃ p ∈ f.matchMetrics, p.matches re name = true) ∧
  (¬ ∃ p ∈ f.excludeMetrics, p.matches re name = true) ∧
  (f.matchTags = [] ∨ ∃ t ∈ tags, ∃ p ∈ f.matchTags, p.matches re t = true)

def DropsMetric (fs : List Filter) (name : String) (tags : List String) : Prop :=
  ∃ f ∈ fs, Satisfied re f name tags ∧ f.dropMetric = true

def ClearsHost (fs : List Filter) (name : String) (tags : List String) : Prop :=
  ∃ f ∈ fs, Satisfied re f name tags ∧ f.dropHost = true

def Removed (fs : List Filter) (name : String) (tags : List String) (t : String) : Prop :=
  t ∈ tags ∧ ∃ f ∈ fs, Satisfied re f name tags ∧ ∃ p ∈ f.dropTags, p.matches re t = true

def Outcome (static : List String) (fs : List Filter) (name src : String) (tags : List String)
    (src' : String) (tags' : List String) : Prop :=
  ¬ DropsMetric re fs name tags ∧
  tags'.Nodup ∧
  (∀ t, t ∈ tags' ↔ (t ∈ tags ∨ t ∈ static) ∧ ¬ Removed re fs name tags t) ∧
  (ClearsHost re fs name tags → src' = "") ∧ (¬ ClearsHost re fs name tags → src' = src)

end Gsd.Tags

namespace Gsd
open AList Tags

variable (re : String → String → Bool)

/-- **C10_pattern_semantics.**  Every pattern text is an optional `!` (`neg`) followed by a body, and the
body is `regex:`+r, or ends in `*`, or neither.  In the three cases the matcher built by `NewStringMatch`
answers: the regexp oracle on exactly `r`; "the candidate starts with the body minus the `*`"; "the
candidate equals the body" — each negated when the `!` is present.  (`hb`: without `!` the body does not
itself start with `!`, otherwise that `!` is the negation mark.) -/
theorem C10_pattern_semantics (neg : Bool) (b : List Char) (s : String)
    (hb : neg = false → b.head? ≠ some '!') :
    ((newStringMatch (String.ofList ((if neg then ['!'] else []) ++ (regexLit ++ b)))).matches re s
        = (re (String.ofList b) s != neg)) ∧
    (¬ regexLit <+: (b ++ ['*']) →
      (newStringMatch (String.ofList ((if neg then ['!'] else []) ++ (b ++ ['*'])))).matches re s
        = (decide (b <+: s.toList) != neg)) ∧
    (¬ regexLit <+: b → ¬ ['*'] <:+ b →
      (newStringMatch (String.ofList ((if neg then ['!'] else []) ++ b))).matches re s
        = (decide (s.toList = b) != neg)) := by
  have hp : hasPrefix s.toList b = decide (b <+: s.toList) := by
    rw [Bool.eq_iff_iff, hasPrefix_iff]; simp
  have hstar : neg = false → (b ++ ['*']).head? ≠ some '!' := fun hn => by
    cases b with
    | nil => simp
    | cons a t => simpa using hb hn
  refine ⟨?_, fun h => ?_, fun h h' => ?_⟩
  · rw [newStringMatch_sign _ _ (fun _ => by simp [regexLit]), parseBody_regex]; rfl
  · rw [newStringMatch_sign _ _ hstar, parseBody_prefix _ _ h]; simp [StringMatch.matches, hp]
  · rw [newStringMatch_sign _ _ hb, parseBody_exact _ _ h h']
    simp only [StringMatch.matches, Bool.false_eq_true, if_false]
    congr 1; rw [Bool.eq_iff_iff]; simp

/-- examples documented in FILTERING.md (of its first six patterns), for an oracle that answers like the regexp named there -/
example :
    let re : String → String → Bool := fun r s => r = ".*abc.*" && (s = "xyz.abc.123")
    (newStringMatch "abc").matches re "abc" = true ∧ (newStringMatch "abc").matches re "abcd" = false ∧
    (newStringMatch "abc*").matches re "abcd" = true ∧ (newStringMatch "!abc").matches re "abcd" = true ∧
    (newStringMatch "!abc").matches re "abc" = false ∧ (newStringMatch "!abc*").matches re "abcd" = false ∧
    (newStringMatch "!abc*").matches re "xyz" = true ∧
    (newStringMatch "regex:.*abc.*").matches re "xyz.abc.123" = true ∧
    (newStringMatch "!regex:.*abc.*").matches re "xyz.abc.123" = false ∧
    (newStringMatch "!regex:.*abc.*").matches re "xyz.123" = true := by
  decide +kernel

/-- **C10_satisfied_iff.**  The three `continue` tests of the filter loop are the documented conditions. -/
theorem C10_satisfied_iff (f : Filter) (name : String) (tags : List String) :
    filterApplies re f name tags = true ↔ Satisfied re f name tags := by
  simp only [filterApplies_eq, Satisfied, Bool.and_eq_true, Bool.or_eq_true, Bool.not_eq_true', ← Bool.not_eq_true,
    List.isEmpty_iff, matchAny_iff, matchAnyMultiple_iff, and_assoc]

private theorem vocabulary (fs : List Filter) (name : String) (tags : List String) :
    let as := fs.filter (filterApplies re · name tags)
    (DropsMetric re fs name tags ↔ as.any (·.dropMetric) = true) ∧
    (ClearsHost re fs name tags ↔ as.any (·.dropHost) = true) ∧
    ∀ t, Removed re fs name tags t ↔ t ∈ tags ∧ ∃ f ∈ as, ∃ p ∈ f.dropTags, p.matches re t = true := by
  simp only [DropsMetric, ClearsHost, Removed, ← C10_satisfied_iff, List.any_filter, List.any_eq_true, Bool.and_eq_true,
    List.mem_filter, and_assoc, implies_true, and_self]

/-- the `len(th.filters) == 0` test only saves the loop -/
private theorem apply_eq (th : TagHandler) (name src : String) (tags : List String) :
    th.apply re name src tags =
      (runFilters re name tags th.filters [] src).map fun r => (r.2, uniqueTagsWithSeen r.1 tags th.tags) := by
  unfold TagHandler.apply
  split
  · next h => rw [List.eq_nil_of_length_eq_zero h]; rfl
  · cases runFilters re name tags th.filters [] src <;> rfl

private theorem apply_spec (th : TagHandler) (hth : th.tags.Nodup) (name src : String) (tags : List String) :
    match th.apply re name src tags with
    | none => DropsMetric re th.filters name tags
    | some (s, t) => Outcome re th.tags th.filters name src tags s t := by
  obtain ⟨hD, hC, hR⟩ := vocabulary re th.filters name tags
  rw [apply_eq, runFilters_eq]
  generalize th.filters.filter (filterApplies re · name tags) = as at hD hC hR
  by_cases hd : as.any (·.dropMetric) = true
  · simp only [hd, if_true]; exact hD.mpr hd
  · simp only [hd]
    refine ⟨mt hD.mp hd, nodup_uniqueTagsWithSeen _ _ _ hth, fun t => ?_, fun hc => if_pos (hC.mp hc),
      fun hn => if_neg (mt hC.mpr hn)⟩
    rw [mem_uniqueTagsWithSeen, hR, mem_foldl_acc _ _ (fun d f x => mem_addDrops re f.dropTags tags d x)]
    refine and_congr_right fun _ => not_congr ?_
    simp only [List.not_mem_nil, false_or]
    exact ⟨fun ⟨f, hf, ht, h⟩ => ⟨ht, f, hf, h⟩, fun ⟨ht, f, hf, h⟩ => ⟨f, hf, ht, h⟩⟩

/-- **C10_drop_iff.**  A metric is dropped iff some filter whose conditions it satisfies has `drop-metric`. -/
theorem C10_drop_iff (est : Nat) (static : List String) (fs : List Filter) (name src : String) (tags : List String) :
    (newTagHandler est static fs).apply re name src tags = none ↔ DropsMetric re fs name tags := by
  have := apply_spec re (newTagHandler est static fs) (newTagHandler_tags est static fs).1 name src tags
  cases h : (newTagHandler est static fs).apply re name src tags with
  | none => rw [h] at this; exact iff_of_true rfl this
  | some r => rw [h] at this; exact iff_of_false nofun this.1

/-- **C10_outcome.**  A metric that is not dropped leaves with exactly the documented source and tags:
no duplicates; tag set = (own tags ∪ static tags) minus the removed ones; source cleared iff a satisfied
filter has `drop-host`. -/
theorem C10_outcome (est : Nat) (static : List String) (fs : List Filter) (name src : String) (tags : List String)
    (s : String) (t : List String) (h : (newTagHandler est static fs).apply re name src tags = some (s, t)) :
    Outcome re static fs name src tags s t := by
  obtain ⟨hth, hmem⟩ := newTagHandler_tags est static fs
  have := apply_spec re (newTagHandler est static fs) hth name src tags
  simp only [h] at this
  obtain ⟨h1, h2, h3, h4, h5⟩ := this
  refine ⟨h1, h2, ?_, h4, h5⟩
  intro x
  rw [h3 x, hmem x]
  rfl

/-- **C10_nodup.**  No output of the tag stage carries a tag twice: metrics (whatever duplicates the input
or the static tag list had) and events. -/
theorem C10_nodup (est : Nat) (static : List String) (fs : List Filter) (name src : String) (tags : List String) :
    (∀ s t, (newTagHandler est static fs).apply re name src tags = some (s, t) → t.Nodup) ∧
    ((newTagHandler est static fs).event src tags).2.Nodup := by
  refine ⟨fun s t h => (C10_outcome re est static fs name src tags s t h).2.1, ?_⟩
  exact nodup_uniqueTags _ _ (newTagHandler_tags est static fs).1

/-- **C10_tags_exact.**  Output tag set = (tags ∪ static) minus removed. -/
theorem C10_tags_exact (est : Nat) (static : List String) (fs : List Filter) (name src : String) (tags : List String)
    (s : String) (t : List String) (h : (newTagHandler est static fs).apply re name src tags = some (s, t)) (x : String) :
    x ∈ t ↔ (x ∈ tags ∨ x ∈ static) ∧ ¬ Removed re fs name tags x :=
  (C10_outcome re est static fs name src tags s t h).2.2.1 x

/-- **C10_static.**  Every configured static tag that is not itself being removed from the metric is present. -/
theorem C10_static (est : Nat) (static : List String) (fs : List Filter) (name src : String) (tags : List String)
    (s : String) (t : List String) (h : (newTagHandler est static fs).apply re name src tags = some (s, t))
    (x : String) (hx : x ∈ static) (hr : ¬ Removed re fs name tags x) : x ∈ t :=
  (C10_tags_exact re est static fs name src tags s t h x).mpr ⟨Or.inr hx, hr⟩

/-- **C10_host_iff.**  The source is cleared exactly when a satisfied filter has `drop-host`, else unchanged. -/
theorem C10_host_iff (est : Nat) (static : List String) (fs : List Filter) (name src : String) (tags : List String)
    (s : String) (t : List String) (h : (newTagHandler est static fs).apply re name src tags = some (s, t)) :
    (ClearsHost re fs name tags → s = "") ∧ (¬ ClearsHost re fs name tags → s = src) ∧
    (src ≠ "" → (s = "" ↔ ClearsHost re fs name tags)) := by
  obtain ⟨_, _, _, h4, h5⟩ := C10_outcome re est static fs name src tags s t h
  refine ⟨h4, h5, fun hne => ⟨fun hs => ?_, h4⟩⟩
  by_contra hc
  exact hne ((h5 hc) ▸ hs)

/-- **C10_event.**  Events get the static tags and are de-duplicated; no filter applies, the source stays. -/
theorem C10_event (est : Nat) (static : List String) (fs : List Filter) (src : String) (tags : List String) :
    ((newTagHandler est static fs).event src tags).1 = src ∧
    ((newTagHandler est static fs).event src tags).2.Nodup ∧
    ∀ x, x ∈ ((newTagHandler est static fs).event src tags).2 ↔ x ∈ tags ∨ x ∈ static := by
  obtain ⟨hth, hmem⟩ := newTagHandler_tags est static fs
  refine ⟨rfl, nodup_uniqueTags _ _ hth, fun x => ?_⟩
  simp only [TagHandler.event, mem_uniqueTags, hmem]

/-- **C10_order_kept.**  When the tags of an event and the static tags are all different, nothing is reordered:
the output is the input followed by the static tags.  (With repetitions `uniqueTagsWithSeen` moves the last tag
into the freed slot.  Nothing is said of metrics: `FormatTagsKey` sorts their tags anyway.) -/
theorem C10_order_kept (est : Nat) (static : List String) (fs : List Filter) (src : String) (tags : List String)
    (h : (tags ++ static).Nodup) :
    (newTagHandler est static fs).event src tags = (src, tags ++ static) := by
  have e : (newTagHandler est static fs).tags = static := by
    simpa [newTagHandler] using uniqueTags_of_nodup static [] (by simpa using (List.nodup_append.mp h).2.1)
  simp only [TagHandler.event, e, uniqueTags_of_nodup tags static h]

/-- the swap-remove order on a repetition: the last tag takes the place of the removed one -/
example : (newTagHandler 0 ["s1", "c", "s2"] []).event "h" ["d", "a", "d", "b", "a", "c"]
    = ("h", ["d", "a", "c", "b", "s1", "s2"]) := by decide

/-- **C10_no_filters.**  Without filters nothing is dropped or cleared: the metric keeps its source, and its tags
are, without repetition, own ∪ static. -/
theorem C10_no_filters (est : Nat) (static : List String) (name src : String) (tags : List String) :
    ∃ t, (newTagHandler est static []).apply re name src tags = some (src, t) ∧ t.Nodup ∧
      ∀ x, x ∈ t ↔ x ∈ tags ∨ x ∈ static := by
  obtain ⟨hth, hmem⟩ := newTagHandler_tags est static []
  refine ⟨uniqueTags tags (newTagHandler est static []).tags, by simp [TagHandler.apply, newTagHandler],
    nodup_uniqueTags _ _ hth, fun x => ?_⟩
  simp only [mem_uniqueTags, hmem]

/-- non-vacuity: two filters, the second one is satisfied through an inverted prefix pattern on a tag, a
static tag equals a removed tag, the input has a duplicate -/
example :
    let re : String → String → Bool := fun _ _ => false
    let fs := [newFilter { matchMetrics := ["other*"], dropMetric := true },
               newFilter { matchTags := ["!env:*"], dropTags := ["host:*"], dropHost := true }]
    (newTagHandler 0 ["host:a", "dc:x", "dc:x"] fs).apply re "req" "10.0.0.1" ["host:a", "env:p", "z", "z"]
      = some ("", ["z", "env:p", "dc:x"]) := by decide +kernel

variable {α : Type} [AddCommMonoid α]

private theorem retag_outcome (est : Nat) (static : List String) (fs : List Filter) (name src : String) (tags : List String)
    (k s : String) (t : List String) (h : (newTagHandler est static fs).retag re name src tags = some (k, s, t)) :
    k = formatTagsKey s t ∧ Outcome re static fs name src tags s t := by
  unfold TagHandler.retag at h
  split at h
  · cases h
  · next s0 t0 ha =>
    cases h
    obtain ⟨h1, h2, h3, h4⟩ := C10_outcome re est static fs name src tags _ _ ha
    exact ⟨rfl, h1, (sortTags_perm _).nodup_iff.mpr h2, fun x => by rw [(sortTags_perm _).mem_iff, h3 x], h4⟩

/-- **C10_map_entries.**  Every series of the map handed on — of each of the four types — is filed under the
key formatted from its own (new) source and tags, and these are the documented outcome of a non-dropped
input series of the same name: no duplicate tags, tag set exact, static tags present, host rule. -/
theorem C10_map_entries (est : Nat) (static : List String) (fs : List Filter) (m : MM α) (k : Key) :
    let out := (newTagHandler est static fs).rekeyMap re m
    (∀ v, lookup k out.counters = some v → k.2 = formatTagsKey v.src v.tags ∧
        ∃ e ∈ m.counters, e.1.1 = k.1 ∧ Outcome re static fs e.1.1 e.2.src e.2.tags v.src v.tags) ∧
    (∀ v, lookup k out.gauges = some v → k.2 = formatTagsKey v.src v.tags ∧
        ∃ e ∈ m.gauges, e.1.1 = k.1 ∧ Outcome re static fs e.1.1 e.2.src e.2.tags v.src v.tags) ∧
    (∀ v, lookup k out.timers = some v → k.2 = formatTagsKey v.src v.tags ∧
        ∃ e ∈ m.timers, e.1.1 = k.1 ∧ Outcome re static fs e.1.1 e.2.src e.2.tags v.src v.tags) ∧
    (∀ v, lookup k out.sets = some v → k.2 = formatTagsKey v.src v.tags ∧
        ∃ e ∈ m.sets, e.1.1 = k.1 ∧ Outcome re static fs e.1.1 e.2.src e.2.tags v.src v.tags) := by
  intro out
  -- One argument for the four types: a series of the new map carries the source and tags of the entry inserted first
  -- under its key (`join` keeps them), and that entry is a re-tagged input series of the same name.
  have key : ∀ {ν : Type} (join : ν → ν → ν) (src : ν → String) (tags : ν → List String) rk (l : AList Key ν) (v : ν),
      (∀ w x, (src (join w x), tags (join w x)) = (src w, tags w)) →
      (∀ e e', rk e = some e' → ∃ k, (newTagHandler est static fs).retag re e.1.1 (src e.2) (tags e.2) =
          some (k, src e'.2, tags e'.2) ∧ e'.1 = (e.1.1, k)) →
      lookup k (mergeWith join [] (l.filterMap rk)) = some v →
      k.2 = formatTagsKey (src v) (tags v) ∧
        ∃ e ∈ l, e.1.1 = k.1 ∧ Outcome re static fs e.1.1 (src e.2) (tags e.2) (src v) (tags v) := by
    intro ν join src tags rk l v hπ hrk hv
    rcases mergeWith_origin join (fun c => (src c, tags c)) hπ [] _ k v hv with
      ⟨w, hw, _⟩ | ⟨e', he', hk, hv'⟩
    · simp at hw
    · obtain ⟨e, he, hre⟩ := List.mem_filterMap.mp he'
      obtain ⟨k', h1, h2⟩ := hrk e e' hre
      simp only [Prod.mk.injEq] at hv'
      rw [hv'.1, hv'.2]
      obtain ⟨h3, h4⟩ := retag_outcome re est static fs _ _ _ _ _ _ h1
      exact ⟨by rw [← hk, h2]; exact h3, e, he, by rw [← hk, h2], h4⟩
  refine ⟨fun v => key joinCounter (·.src) (·.tags) _ _ v (fun _ _ => rfl) fun e e' h => ?_,
    fun v => key joinGauge (·.src) (·.tags) _ _ v (fun w x => by unfold joinGauge; split <;> rfl) fun e e' h => ?_,
    fun v => key joinTimer (·.src) (·.tags) _ _ v (fun _ _ => rfl) fun e e' h => ?_,
    fun v => key joinSet (·.src) (·.tags) _ _ v (fun _ _ => rfl) fun e e' h => ?_⟩
  · unfold rekeyCounter at h; split at h <;> cases h; next hr => exact ⟨_, hr, rfl⟩
  · unfold rekeyGauge at h; split at h <;> cases h; next hr => exact ⟨_, hr, rfl⟩
  · unfold rekeyTimer at h; split at h <;> cases h; next hr => exact ⟨_, hr, rfl⟩
  · unfold rekeySet at h; split at h <;> cases h; next hr => exact ⟨_, hr, rfl⟩

def Tags.survivors (th : TagHandler) (m : MM α) : List (MM α) :=
  (m.counters.filterMap (rekeyCounter re th)).map (fun e => ({ counters := [e] } : MM α)) ++
  (m.gauges.filterMap (rekeyGauge re th)).map (fun e => ({ gauges := [e] } : MM α)) ++
  (m.timers.filterMap (rekeyTimer re th)).map (fun e => ({ timers := [e] } : MM α)) ++
  (m.sets.filterMap (rekeySet re th)).map (fun e => ({ sets := [e] } : MM α))

/-- **C10_collision_content.**  When tag removal (or host clearing) makes series coincide their data are
combined without loss: per new key the map handed on holds the aggregate of *all* surviving input series
re-keyed to it — counters add, timer values concatenate and sampled counts add, sets unite, the newest
timestamp is kept, a gauge carries the value of a series with the newest timestamp — and a key is present
iff some surviving series is re-keyed to it (dropped series contribute nothing).
`AggMM` is C07's aggregation relation. -/
theorem C10_collision_content (th : TagHandler) (m : MM α) :
    AggMM (th.rekeyMap re m) (survivors re th m) := by
  have hc := agg_mergeWith_dups CSum joinCounter csum_base (joinCounter_eq ▸ csum_step) [] [] (m.counters.filterMap (rekeyCounter re th)) (agg_nil _)
  have hg := agg_mergeWith_dups (GSum (α := α)) joinGauge gsum_base gsum_join [] [] (m.gauges.filterMap (rekeyGauge re th)) (agg_nil _)
  have ht := agg_mergeWith_dups (TSum (α := α)) joinTimer tsum_base (joinTimer_eq (α := α) ▸ tsum_step) [] [] (m.timers.filterMap (rekeyTimer re th)) (agg_nil _)
  have hs := agg_mergeWith_dups SSum joinSet ssum_base (joinSet_eq ▸ ssum_step) [] [] (m.sets.filterMap (rekeySet re th)) (agg_nil _)
  -- of a survivor's four sub-maps only the one of its own type is non-empty
  refine ⟨agg_congr _ _ _ _ ?_ hc, agg_congr _ _ _ _ ?_ ht, agg_congr _ _ _ _ ?_ hg, agg_congr _ _ _ _ ?_ hs⟩ <;>
  · intro k
    simp only [survivors, List.map_append, List.map_map, Function.comp_def, valsAt_append, valsAt_map_nil, List.append_nil,
      List.nil_append]

/-- **C10_dispatch_iff.**  Nothing is handed on iff every series of the map was dropped. -/
theorem C10_dispatch_iff (th : TagHandler) (m : MM α) :
    th.dispatchMetricMap re m = none ↔ survivors re th m = [] := by
  simp only [TagHandler.dispatchMetricMap, TagHandler.rekeyMap, MMap.isEmpty, survivors, Bool.and_eq_true, List.isEmpty_iff,
    mergeWith_eq_nil, true_and, List.append_eq_nil_iff, List.map_eq_nil_iff, ite_eq_left_iff, reduceCtorEq, imp_false,
    Decidable.not_not]
  -- `MMap.isEmpty` looks at counters, timers, gauges, sets; `survivors` lists counters, gauges, timers, sets
  exact ⟨fun ⟨⟨⟨c, t⟩, g⟩, s⟩ => ⟨⟨⟨c, g⟩, t⟩, s⟩, fun ⟨⟨⟨c, g⟩, t⟩, s⟩ => ⟨⟨⟨c, t⟩, g⟩, s⟩⟩

/-- non-vacuity of the collision theorem: dropping `host:*` makes two counters and two gauges coincide, a
third counter is dropped by name -/
example :
    let re : String → String → Bool := fun _ _ => false
    let th := newTagHandler 0 ["dc:x"] [newFilter { dropTags := ["host:*"] }, newFilter { matchMetrics := ["junk"], dropMetric := true }]
    let m : MM Int := {
      counters := [(("req", "host:a"), { value := 2, ts := 5, src := "", tags := ["host:a"] }),
                   (("req", "host:b"), { value := 3, ts := 9, src := "", tags := ["host:b"] }),
                   (("junk", ""), { value := 7, ts := 1, src := "", tags := [] })],
      gauges := [(("g", "host:a"), { value := 1, ts := 7, src := "", tags := ["host:a"] }),
                 (("g", "host:b"), { value := 2, ts := 6, src := "", tags := ["host:b"] })] }
    (th.rekeyMap re m).counters = [(("req", "dc:x"), { value := 5, ts := 9, src := "", tags := ["dc:x"] })] ∧
    (th.rekeyMap re m).gauges.map (fun e => (e.1, e.2.value, e.2.ts, e.2.tags)) = [(("g", "dc:x"), 1, 7, ["dc:x"])] ∧
    (survivors re th m).length = 4 := by
  decide +kernel

end Gsd

import Gsd.Proofs.Lemmas.Agg
/-!
# C07 — merging batches is independent of order and grouping

`MTree` = any bracketing of `Merge` calls over leaf maps (a leaf may itself be built from datapoints
by `Receive`, which counts as merging a one-datapoint map: `C07_receive_agg`).
`C07_tree`: whatever the bracketing, the entry of a series in the result is the aggregate of the
leaves' entries (counters add, timer values concatenate and sampled counts add, sets unite, every
series keeps the newest timestamp, a gauge ends with the value of a leaf carrying the newest
timestamp).  `C07_order_independent_*`: two programs over permuted leaves agree.
Exact arithmetic: `α` is any commutative additive monoid (float `+` is not associative).
-/
namespace Gsd
open AList

variable {α : Type} [AddCommMonoid α]

/-- **C07_merge_lookup.**  `into.Merge(from)`: per series, the two entries are combined by the type's
merge function, an entry present on one side only is carried over unchanged. -/
theorem C07_merge_lookup (a b : MM α) (hb : b.WF) (k : Key) :
    lookup k (MM.merge a b).counters = optComb mergeCounter (lookup k a.counters) (lookup k b.counters) ∧
    lookup k (MM.merge a b).timers   = optComb mergeTimer   (lookup k a.timers)   (lookup k b.timers) ∧
    lookup k (MM.merge a b).gauges   = optComb mergeGauge   (lookup k a.gauges)   (lookup k b.gauges) ∧
    lookup k (MM.merge a b).sets     = optComb mergeSet     (lookup k a.sets)     (lookup k b.sets) := by
  obtain ⟨h1, h2, h3, h4⟩ := hb
  exact ⟨lookup_mergeWith _ _ _ h1 k, lookup_mergeWith _ _ _ h2 k, lookup_mergeWith _ _ _ h3 k, lookup_mergeWith _ _ _ h4 k⟩

theorem eval_wf (t : MTree α) (h : ∀ m ∈ t.leaves, m.WF) : t.eval.WF := by
  induction t with
  | leaf m => exact h m (List.mem_singleton_self m)
  | node l r ihl _ => exact merge_wf _ _ (ihl fun m hm => h m (List.mem_append_left _ hm))

/-- **C07_tree.**  For every bracketing `t` of merges over well-formed leaf maps and every series `k`:
the result's entry for `k` aggregates the leaves' entries for `k` (and is absent iff no leaf has one). -/
theorem C07_tree (t : MTree α) (h : ∀ m ∈ t.leaves, m.WF) :
    Agg CSum t.eval.counters (t.leaves.map (·.counters)) ∧
    Agg TSum t.eval.timers   (t.leaves.map (·.timers)) ∧
    Agg GSum t.eval.gauges   (t.leaves.map (·.gauges)) ∧
    Agg SSum t.eval.sets     (t.leaves.map (·.sets)) := by
  induction t with
  | leaf m => exact aggMM_leaf m
  | node l r ihl ihr =>
    have hl : ∀ m ∈ l.leaves, m.WF := fun m hm => h m (List.mem_append_left _ hm)
    have hr : ∀ m ∈ r.leaves, m.WF := fun m hm => h m (List.mem_append_right _ hm)
    exact aggMM_merge _ _ _ _ (ihl hl) (ihr hr) (eval_wf r hr)

theorem agg_perm {ν} {Sum : ν → List ν → Prop} (hne : ∀ v, ¬ Sum v []) {a b : AList Key ν}
    {xs ys : List (AList Key ν)} (ha : Agg Sum a xs) (hb : Agg Sum b ys) (hp : xs.Perm ys) (k : Key) :
    (lookup k a = none ∧ lookup k b = none) ∨
    ∃ x y, lookup k a = some x ∧ lookup k b = some y ∧
      Sum x (valsAt k xs) ∧ Sum y (valsAt k ys) ∧ (valsAt k xs).Perm (valsAt k ys) := by
  have ha := ha k
  have hb := hb k
  have hperm : (valsAt k xs).Perm (valsAt k ys) := hp.filterMap _
  cases h1 : lookup k a <;> cases h2 : lookup k b <;> simp only [h1, h2] at ha hb
  · exact Or.inl ⟨rfl, rfl⟩
  · rw [ha] at hperm; rw [hperm.symm.eq_nil] at hb; exact (hne _ hb).elim
  · rw [hb] at hperm; rw [hperm.eq_nil] at ha; exact (hne _ ha).elim
  · exact Or.inr ⟨_, _, rfl, rfl, ha, hb, hperm⟩

/-- **C07_order_independent_counter.**  Two merge programs over the same leaves in any order and any
bracketing report the same counter value and timestamp for every series (and the same presence). -/
theorem C07_order_independent_counter (t₁ t₂ : MTree α) (h₁ : ∀ m ∈ t₁.leaves, m.WF) (h₂ : ∀ m ∈ t₂.leaves, m.WF)
    (hp : t₁.leaves.Perm t₂.leaves) (k : Key) :
    (lookup k t₁.eval.counters).map (fun c => (c.value, c.ts)) =
    (lookup k t₂.eval.counters).map (fun c => (c.value, c.ts)) := by
  obtain ⟨e1, e2⟩ | ⟨x, y, e1, e2, ⟨a1, a2⟩, ⟨b1, b2⟩, hperm⟩ :=
    agg_perm (fun _ h => isMax_nil h.2) (C07_tree t₁ h₁).1 (C07_tree t₂ h₂).1 (hp.map (·.counters)) k
  · rw [e1, e2]
  · rw [e1, e2, Option.map_some, Option.map_some, a1, b1, (hperm.map _).sum_eq, isMax_perm_unique a2 b2 (hperm.map _)]

/-- **C07_order_independent_timer.**  Same for timers: the values form the same multiset, sampled counts
and timestamps are equal. -/
theorem C07_order_independent_timer (t₁ t₂ : MTree α) (h₁ : ∀ m ∈ t₁.leaves, m.WF) (h₂ : ∀ m ∈ t₂.leaves, m.WF)
    (hp : t₁.leaves.Perm t₂.leaves) (k : Key) :
    match lookup k t₁.eval.timers, lookup k t₂.eval.timers with
    | none, none => True
    | some x, some y => x.values.Perm y.values ∧ x.sampled = y.sampled ∧ x.ts = y.ts
    | _, _ => False := by
  obtain ⟨e1, e2⟩ | ⟨x, y, e1, e2, ⟨a1, a2, a3⟩, ⟨b1, b2, b3⟩, hperm⟩ :=
    agg_perm (fun _ h => isMax_nil h.2.2) (C07_tree t₁ h₁).2.1 (C07_tree t₂ h₂).2.1 (hp.map (·.timers)) k
  · rw [e1, e2]; trivial
  · rw [e1, e2]
    exact ⟨a1 ▸ b1 ▸ (hperm.map _).flatten, a2 ▸ b2 ▸ (hperm.map _).sum_eq, isMax_perm_unique a3 b3 (hperm.map _)⟩

/-- **C07_order_independent_set.**  Same members, same timestamp. -/
theorem C07_order_independent_set (t₁ t₂ : MTree α) (h₁ : ∀ m ∈ t₁.leaves, m.WF) (h₂ : ∀ m ∈ t₂.leaves, m.WF)
    (hp : t₁.leaves.Perm t₂.leaves) (k : Key) :
    match lookup k t₁.eval.sets, lookup k t₂.eval.sets with
    | none, none => True
    | some x, some y => (∀ v, v ∈ x.members ↔ v ∈ y.members) ∧ x.ts = y.ts
    | _, _ => False := by
  obtain ⟨e1, e2⟩ | ⟨x, y, e1, e2, ⟨a1, a2⟩, ⟨b1, b2⟩, hperm⟩ :=
    agg_perm (fun _ h => isMax_nil h.2) (C07_tree t₁ h₁).2.2.2 (C07_tree t₂ h₂).2.2.2 (hp.map (·.sets)) k
  · rw [e1, e2]; trivial
  · rw [e1, e2]
    exact ⟨fun v => by simp only [a1, b1, hperm.mem_iff], isMax_perm_unique a2 b2 (hperm.map _)⟩

/-- **C07_order_independent_gauge.**  Both programs end with the newest timestamp seen for the series, and
each ends with the value of *a* leaf carrying that timestamp (the same value when it is unique). -/
theorem C07_order_independent_gauge (t₁ t₂ : MTree α) (h₁ : ∀ m ∈ t₁.leaves, m.WF) (h₂ : ∀ m ∈ t₂.leaves, m.WF)
    (hp : t₁.leaves.Perm t₂.leaves) (k : Key) :
    match lookup k t₁.eval.gauges, lookup k t₂.eval.gauges with
    | none, none => True
    | some x, some y => x.ts = y.ts ∧
        (∃ l ∈ valsAt k (t₁.leaves.map (·.gauges)), l.ts = x.ts ∧ l.value = x.value) ∧
        (∃ l ∈ valsAt k (t₁.leaves.map (·.gauges)), l.ts = x.ts ∧ l.value = y.value) ∧
        ((∀ l l', l ∈ valsAt k (t₁.leaves.map (·.gauges)) → l' ∈ valsAt k (t₁.leaves.map (·.gauges)) →
            l.ts = x.ts → l'.ts = x.ts → l.value = l'.value) → x.value = y.value)
    | _, _ => False := by
  obtain ⟨e1, e2⟩ | ⟨x, y, e1, e2, ⟨a1, la, hla, hla1, hla2⟩, ⟨b1, lb, hlb, hlb1, hlb2⟩, hperm⟩ :=
    agg_perm (fun _ h => isMax_nil h.1) (C07_tree t₁ h₁).2.2.1 (C07_tree t₂ h₂).2.2.1 (hp.map (·.gauges)) k
  · rw [e1, e2]; trivial
  · rw [e1, e2]
    have ets := isMax_perm_unique a1 b1 (hperm.map _)
    have hlb' := hperm.mem_iff.mpr hlb
    exact ⟨ets, ⟨la, hla, hla1, hla2⟩, ⟨lb, hlb', hlb1.trans ets.symm, hlb2⟩,
      fun huniq => hla2 ▸ hlb2 ▸ huniq la lb hla hlb' hla1 (hlb1.trans ets.symm)⟩

/-- `receiveCounter` and `MergeCounter` compare timestamps by different operators, which `cmp_*` shows to agree.
Likewise timers and sets; gauges differ on equal timestamps (`gsum_recv`). -/
theorem recvCounter_eq (cnt ts : Int) (c : Counter) (src : String) (tags : List String) :
    recvCounter cnt ts c = mergeCounter c { value := cnt, ts := ts, src := src, tags := tags } := by
  simp [recvCounter, mergeCounter, bumpTs, cmp_MergeCounter, cmp_receiveCounter]

theorem recvTimer_eq (v inv : α) (ts : Int) (t : Timer α) (src : String) (tags : List String) :
    recvTimer v inv ts t = mergeTimer t { values := [v], sampled := inv, ts := ts, src := src, tags := tags } := by
  simp [recvTimer, mergeTimer, bumpTs, cmp_MergeTimer, cmp_receiveTimer]

theorem recvSet_eq (v : String) (ts : Int) (x : SetV) (src : String) (tags : List String) :
    recvSet v ts x = mergeSet x { members := [v], ts := ts, src := src, tags := tags } := by
  simp [recvSet, mergeSet, bumpTs, cmp_MergeSet, cmp_receiveSet, setUnion]

theorem csum_recv (cnt ts : Int) (src : String) (tags : List String) (x : Counter) (xs : List Counter) (hx : CSum x xs) :
    CSum (recvCounter cnt ts x) (xs ++ [{ value := cnt, ts := ts, src := src, tags := tags }]) :=
  recvCounter_eq cnt ts x src tags ▸ csum_step x _ xs _ hx (csum_base _)

theorem tsum_recv (v inv : α) (ts : Int) (src : String) (tags : List String) (x : Timer α) (xs : List (Timer α))
    (hx : TSum x xs) :
    TSum (recvTimer v inv ts x) (xs ++ [{ values := [v], sampled := inv, ts := ts, src := src, tags := tags }]) :=
  recvTimer_eq v inv ts x src tags ▸ tsum_step x _ xs _ hx (tsum_base _)

theorem ssum_recv (v : String) (ts : Int) (src : String) (tags : List String) (x : SetV) (xs : List SetV) (hx : SSum x xs) :
    SSum (recvSet v ts x) (xs ++ [{ members := [v], ts := ts, src := src, tags := tags }]) :=
  recvSet_eq v ts x src tags ▸ ssum_step x _ xs _ hx (ssum_base _)

omit [AddCommMonoid α] in
theorem gsum_recv (v : α) (ts : Int) (src : String) (tags : List String) (x : Gauge α) (xs : List (Gauge α))
    (hx : GSum x xs) : GSum (recvGauge v ts x) (xs ++ [{ value := v, ts := ts, src := src, tags := tags }]) :=
  gsum_pick x { value := v, ts := ts, src := src, tags := tags } xs _ hx (gsum_base _) (cmp_receiveGauge ts x.ts).1
    (fun h => Int.not_lt.mp fun hlt => h ((cmp_receiveGauge ts x.ts).2 hlt))

/-- **C07_receive_agg.**  `Receive(m, d)` counts as merging one more leaf, the one-datapoint map. -/
theorem C07_receive_agg (ops : NumOps α) (m : MM α) (d : Dp α) (ls : List (MM α))
    (hc : Agg CSum m.counters (ls.map (·.counters))) (ht : Agg TSum m.timers (ls.map (·.timers)))
    (hg : Agg GSum m.gauges (ls.map (·.gauges))) (hs : Agg SSum m.sets (ls.map (·.sets))) :
    Agg CSum (MM.receive ops m d).counters ((ls ++ [MM.single ops d]).map (·.counters)) ∧
    Agg TSum (MM.receive ops m d).timers ((ls ++ [MM.single ops d]).map (·.timers)) ∧
    Agg GSum (MM.receive ops m d).gauges ((ls ++ [MM.single ops d]).map (·.gauges)) ∧
    Agg SSum (MM.receive ops m d).sets ((ls ++ [MM.single ops d]).map (·.sets)) := by
  simp only [List.map_append, List.map_cons, List.map_nil]
  cases hty : d.ty <;> simp only [MM.receive, MM.single, hty]
  · exact ⟨agg_upsert CSum _ _ (csum_base _) (csum_recv _ _ _ _) _ _ hc, agg_append_empty ht, agg_append_empty hg,
      agg_append_empty hs⟩
  · exact ⟨agg_append_empty hc, agg_upsert TSum _ _ (tsum_base _) (tsum_recv _ _ _ _ _) _ _ ht, agg_append_empty hg,
      agg_append_empty hs⟩
  · exact ⟨agg_append_empty hc, agg_append_empty ht, agg_upsert GSum _ _ (gsum_base _) (gsum_recv _ _ _ _) _ _ hg,
      agg_append_empty hs⟩
  · exact ⟨agg_append_empty hc, agg_append_empty ht, agg_append_empty hg,
      agg_upsert SSum _ _ (ssum_base _) (ssum_recv _ _ _ _) _ _ hs⟩

theorem aggMM_receiveAll (ops : NumOps α) (m : MM α) (ds : List (Dp α)) (ls : List (MM α)) (h : AggMM m ls) :
    AggMM (MM.receiveAll ops m ds) (ls ++ ds.map (MM.single ops)) := by
  induction ds generalizing m ls with
  | nil => simpa [MM.receiveAll] using h
  | cons d t ih =>
    have := ih (MM.receive ops m d) (ls ++ [MM.single ops d]) (C07_receive_agg ops m d ls h.1 h.2.1 h.2.2.1 h.2.2.2)
    simpa [MM.receiveAll, List.append_assoc] using this

/-- **C07_mergeMaps.**  `MergeMaps` of any slice of (well-formed) maps aggregates exactly those maps. -/
theorem C07_mergeMaps (ms : List (MM α)) (hw : ∀ m ∈ ms, m.WF) : AggMM (MM.mergeMaps ms) ms := aggMM_mergeMaps ms hw

/-- **C07_receiveAll.**  A map built from a datagram's datapoints aggregates the one-datapoint maps. -/
theorem C07_receiveAll (ops : NumOps α) (ds : List (Dp α)) :
    AggMM (MM.receiveAll ops MM.empty ds) (ds.map (MM.single ops)) := by
  simpa using aggMM_receiveAll ops MM.empty ds [] aggMM_empty

def Slots (slots : List (MM α)) (L : List (MM α)) : Prop :=
  ∃ hs, List.Forall₂ (fun s l => AggMM s l ∧ s.WF) slots hs ∧ hs.flatten.Perm L

theorem slots_init (k : Nat) : Slots (Consolidator.init k : List (MM α)) [] :=
  ⟨List.replicate k [], by
    induction k with
    | zero => exact .nil
    | succ k ih => exact .cons ⟨aggMM_empty, empty_wf⟩ ih, by simp⟩

theorem slots_modify {slots L : List (MM α)} (h : Slots slots L) (i : Nat) (hi : i < slots.length) {f : MM α → MM α}
    (x : List (MM α)) (hf : ∀ s l, AggMM s l ∧ s.WF → AggMM (f s) (l ++ x) ∧ (f s).WF) :
    Slots (slots.modify i f) (L ++ x) := by
  obtain ⟨hs, h2, hp⟩ := h
  exact ⟨hs.modify i (· ++ x), forall₂_modify h2 i hf,
    (flatten_modify_append hs i (h2.length_eq ▸ hi) x).trans (hp.append_right x)⟩

theorem slots_step (ops : NumOps α) {slots L : List (MM α)} (h : Slots slots L) (hk : 0 < slots.length) (op : COp α)
    (hw : ∀ m ∈ Consolidator.leavesOf ops op, m.WF) :
    Slots (Consolidator.step ops slots op) (L ++ Consolidator.leavesOf ops op) := by
  cases op with
  | map i m =>
    exact slots_modify h _ (Nat.mod_lt _ hk) [m] fun s l hs =>
      ⟨aggMM_merge _ _ _ _ hs.1 (aggMM_leaf m) (hw m (List.mem_singleton_self m)), merge_wf _ _ hs.2⟩
  | dps i ds =>
    exact slots_modify h _ (Nat.mod_lt _ hk) _ fun s l hs =>
      ⟨aggMM_receiveAll ops s ds l hs.1, receiveAll_wf ops s ds hs.2⟩

/-- **C07_slots.**  For every number of slots `k ≥ 1`, every sequence of `ReceiveMetricMap` /
`ReceiveMetrics` calls and every assignment of calls to slots, what the flush obtains
(`MergeMaps(Drain())`) aggregates a permutation of everything that was received. -/
theorem C07_slots (ops : NumOps α) (k : Nat) (hk : 0 < k) (prog : List (COp α))
    (hw : ∀ op ∈ prog, ∀ m ∈ Consolidator.leavesOf ops op, m.WF) :
    ∃ L : List (MM α), L.Perm (prog.flatMap (Consolidator.leavesOf ops)) ∧
      AggMM (Consolidator.drainMerged ops k prog) L := by
  have key : ∀ (prog : List (COp α)) (slots L : List (MM α)), slots.length = k → Slots slots L →
      (∀ op ∈ prog, ∀ m ∈ Consolidator.leavesOf ops op, m.WF) →
      Slots (prog.foldl (Consolidator.step ops) slots) (L ++ prog.flatMap (Consolidator.leavesOf ops)) := by
    intro prog
    induction prog with
    | nil => intro slots L _ h _; simpa using h
    | cons op t ih =>
      intro slots L hlen h hw
      have := ih _ _ (by cases op <;> simpa [Consolidator.step] using hlen)
        (slots_step ops h (hlen ▸ hk) op (hw op (by simp))) fun o ho => hw o (by simp [ho])
      simpa [List.append_assoc] using this
  obtain ⟨hs, h2, hp⟩ := key prog _ [] (by simp [Consolidator.init]) (slots_init k) hw
  exact ⟨hs.flatten, by simpa using hp, by simpa [Consolidator.drainMerged, Consolidator.run, MM.mergeMaps] using aggMM_foldl_merge h2 MM.empty [] aggMM_empty⟩

/-- On equal timestamps the gauge keeps the value of one of the two datapoints; which one depends on whether the source
compares strictly (`Facts.rel_MergeGauge`).  Either satisfies C07, so the example says "one of them", not which. -/
example :
    let a : MM Int := { counters := [(("c", ""), { value := 2, ts := 5, src := "", tags := [] })],
                        gauges := [(("g", ""), { value := 1, ts := 7, src := "", tags := [] })] }
    let b : MM Int := { counters := [(("c", ""), { value := 3, ts := 9, src := "", tags := [] })],
                        gauges := [(("g", ""), { value := 2, ts := 7, src := "", tags := [] })] }
    a.WF ∧ b.WF ∧
    (lookup ("c", "") (MM.merge a b).counters).map (fun c => (c.value, c.ts)) = some (5, 9) ∧
    (lookup ("c", "") (MM.merge b a).counters).map (fun c => (c.value, c.ts)) = some (5, 9) ∧
    ((lookup ("g", "") (MM.merge a b).gauges).map (fun g => (g.value, g.ts)) ∈ [some (1, 7), some (2, 7)]) ∧
    ((lookup ("g", "") (MM.merge b a).gauges).map (fun g => (g.value, g.ts)) ∈ [some (1, 7), some (2, 7)]) := by
  refine ⟨⟨by decide, by decide, by decide, by decide⟩, ⟨by decide, by decide, by decide, by decide⟩, ?_, ?_, ?_, ?_⟩ <;> decide

end Gsd

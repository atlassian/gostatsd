import Gsd.Model.Forward
import Gsd.Proofs.Lemmas.MetricMap
/-! `nest` / `unnest` (C14) and `splitByKey` (C15) are `AList.curry` of a re-keyed map and its inverse; the HTTP hop's
`readBody` by `Content-Encoding`.  The model's `Nested.lookup2` and `Nested.WF` unfold to `AList.lookup₂` and
`AList.WF₂`, whose lemmas are used for them as they stand.  Core-only. -/
namespace Gsd
open AList

section nesting
variable {ν μ : Type}

theorem nest_eq_curry (f : ν → μ) (m : AList Key ν) : nest f m = curry (mapVals (fun _ => f) m) := by
  simp [nest, curry, mapVals, List.foldl_map, curryStep]

theorem lookup2_nest (f : ν → μ) (m : AList Key ν) (hm : NodupKeys m) (n tk : String) :
    Nested.lookup2 n tk (nest f m) = (lookup (n, tk) m).map f := by
  rw [nest_eq_curry]
  exact (lookup₂_curry _ (nodupKeys_mapVals _ hm) n tk).trans (lookup_mapVals _ _ m)

theorem wf_nest (f : ν → μ) (m : AList Key ν) : Nested.WF (nest f m) := by
  rw [nest_eq_curry]; exact wf₂_curry _

theorem unnest_cons (g : μ → ν) (e : String × AList String μ) (t : Nested μ) :
    unnest g (e :: t) = e.2.map (fun r => (((e.1, r.1) : Key), g r.2)) ++ unnest g t := by
  simp [unnest]

theorem lookup_unnest (g : μ → ν) (p : Nested μ) (hp : NodupKeys p) (n tk : String) :
    lookup (n, tk) (unnest g p) = (Nested.lookup2 n tk p).map g := by
  induction p with
  | nil => simp [unnest, Nested.lookup2]
  | cons e t ih =>
    obtain ⟨n0, tm⟩ := e
    rw [nodupKeys_cons] at hp
    rw [unnest_cons, lookup_append, lookup_map_tag (fun _ => n0) g, ih hp.2]
    simp only [Nested.lookup2, lookup_cons]
    by_cases h : n0 = n
    · subst h; simp [lookup_eq_none_iff.mpr hp.1]
    · simp [h]

theorem keys_unnest (g : μ → ν) (p : Nested μ) :
    keys (unnest g p) = p.flatMap (fun e => (keys e.2).map (fun tk => ((e.1, tk) : Key))) := by
  induction p with
  | nil => simp [unnest, keys]
  | cons e t ih =>
    rw [unnest_cons, keys_append, ih]
    simp [keys, List.map_map, Function.comp_def]

theorem nodupKeys_unnest (g : μ → ν) (p : Nested μ) (hp : Nested.WF p) : NodupKeys (unnest g p) := by
  rw [NodupKeys, keys_unnest]
  exact nodup_flatMap_pair Prod.fst (fun e => keys e.2) p hp.1 hp.2

theorem lookup_unnest_nest (f : ν → μ) (g : μ → ν) (m : AList Key ν) (hm : NodupKeys m) (k : Key) :
    lookup k (unnest g (nest f m)) = (lookup k m).map (fun v => g (f v)) := by
  obtain ⟨n, tk⟩ := k
  rw [lookup_unnest g _ (wf_nest f m).1, lookup2_nest f m hm]
  cases lookup (n, tk) m <;> simp

end nesting

section splitting
variable {ν : Type}

theorem splitByKey_eq_curry (kf : Key → String) (m : AList Key ν) :
    splitByKey kf m = curry (m.map (fun e => ((kf e.1, e.1), e.2))) := by
  simp [splitByKey, curry, List.foldl_map, curryStep]

theorem nodupKeys_splitByKey (kf : Key → String) (m : AList Key ν) : NodupKeys (splitByKey kf m) := by
  rw [splitByKey_eq_curry]; exact (wf₂_curry _).1

theorem nodupKeys_rekey (kf : Key → String) (m : AList Key ν) (hm : NodupKeys m) :
    NodupKeys (m.map (fun e => ((kf e.1, e.1), e.2))) := by
  have : keys (m.map (fun e => ((kf e.1, e.1), e.2))) = (keys m).map (fun k => (kf k, k)) := by
    simp [keys, List.map_map, Function.comp_def]
  unfold NodupKeys
  rw [this]
  exact List.Pairwise.map _ (fun a b hab hc => hab (congrArg Prod.snd hc)) hm

theorem lookup_splitByKey (kf : Key → String) (m : AList Key ν) (hm : NodupKeys m) (K : String) (k : Key) :
    lookup k ((lookup K (splitByKey kf m)).getD []) = if kf k = K then lookup k m else none := by
  rw [lookup_getD_nil, splitByKey_eq_curry, lookup₂_curry _ (nodupKeys_rekey kf m hm)]
  exact (lookup_map_tag kf id m K k).trans (by rw [Option.map_id_fun, id])

theorem keys_splitByKey (kf : Key → String) (m : AList Key ν) (K : String) :
    K ∈ keys (splitByKey kf m) ↔ ∃ k ∈ keys m, kf k = K := by
  rw [splitByKey_eq_curry, mem_keys_curry]
  simp only [keys, List.mem_map]
  constructor
  · rintro ⟨_, ⟨e, he, rfl⟩, h⟩; exact ⟨e.1, ⟨e, he, rfl⟩, h⟩
  · rintro ⟨_, ⟨e, he, rfl⟩, h⟩; exact ⟨_, ⟨e, he, rfl⟩, h⟩

end splitting

section hop
variable {Msg Out : Type}

theorem readBody_none (lib : Lib Msg) (enc : String) : readBody lib ⟨none, enc⟩ = .error 500 := rfl

theorem readBody_zlib (lib : Lib Msg) (b : Bytes) :
    readBody lib ⟨some b, zlibEncoding⟩ = match lib.inflate b with | some x => .ok x | none => .error 400 := by
  simp only [readBody, if_true]; cases lib.inflate b <;> rfl

theorem readBody_lz4 (lib : Lib Msg) (b : Bytes) :
    readBody lib ⟨some b, lz4Encoding⟩ = match lib.lz4d b with | some x => .ok x | none => .error 400 := by
  have : ¬ lz4Encoding = zlibEncoding := by decide
  simp only [readBody, this, if_false, if_true]; cases lib.lz4d b <;> rfl

theorem readBody_identity (lib : Lib Msg) (b : Bytes) (enc : String) (h : enc = "identity" ∨ enc = "") :
    readBody lib ⟨some b, enc⟩ = .ok b := by
  have h1 : ¬ enc = zlibEncoding := by rcases h with rfl | rfl <;> decide
  have h2 : ¬ enc = lz4Encoding := by rcases h with rfl | rfl <;> decide
  simp [readBody, h1, h2, h]

theorem readBody_other (lib : Lib Msg) (b : Bytes) (enc : String) (h1 : enc ≠ zlibEncoding) (h2 : enc ≠ lz4Encoding)
    (h3 : ¬ (enc = "identity" ∨ enc = "")) : readBody lib ⟨some b, enc⟩ = .error 400 := by
  simp [readBody, h1, h2, h3]

theorem readBody_error (lib : Lib Msg) (rq : Request) (c : Nat) (h : readBody lib rq = .error c) :
    c = if rq.body = none then 500 else 400 := by
  obtain ⟨body, enc⟩ := rq
  cases body with
  | none => cases h; rfl
  | some b =>
    by_cases h1 : enc = zlibEncoding
    · subst h1; rw [readBody_zlib] at h; split at h <;> cases h; rfl
    by_cases h2 : enc = lz4Encoding
    · subst h2; rw [readBody_lz4] at h; split at h <;> cases h; rfl
    by_cases h3 : enc = "identity" ∨ enc = ""
    · rw [readBody_identity lib b enc h3] at h; cases h
    · rw [readBody_other lib b enc h1 h2 h3] at h; cases h; rfl

theorem ingest_eq (lib : Lib Msg) (tr : Msg → Out) (rq : Request) :
    ingest lib tr rq = match decodes lib rq with
      | some msg => (202, [tr msg])
      | none => (if rq.body = none then 500 else 400, []) := by
  unfold decodes ingest
  cases hr : readBody lib rq with
  | error c => simp only [readBody_error lib rq c hr]
  | ok b =>
    have hb : rq.body ≠ none := fun hn => by
      obtain ⟨body, enc⟩ := rq; cases hn; cases hr
    cases hu : lib.unmarshal b <;> simp [hu, hb]

end hop

end Gsd

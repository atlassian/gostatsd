import Gsd.Model.K8s
import Gsd.Proofs.Lemmas.AList
/-! Lemmas for C13.  `Inv`: the store's keys are unique and every memoised instance derives from a pod currently indexed
at its IP.  It is kept because an event invalidates the IP of exactly the pod version it takes out of the store
(`retired`, `memo_step_event`, `mem_podsAt_storeStep`).  Histories with racing lookups (`xrunG true`) are the general
case; `run` is the case without races. -/
namespace Gsd.K8s
open Gsd AList

variable {Pat : Type}

theorem holds_eq (ip : String) (p : Pod) : holds ip p = (indexable p && p.ip == ip) := by
  simp only [holds, indexable, finished, isHostNetwork, bne, Bool.not_or, Bool.and_assoc]
  ac_rfl

theorem podsAt_eq_filter_holds (store : Store) (ip : String) :
    podsAt store ip = (store.map Prod.snd).filter (holds ip) := by
  unfold podsAt
  congr 1
  funext p
  exact (holds_eq ip p).symm

theorem mem_podsAt {store : Store} {ip : String} {q : Pod} :
    q ∈ podsAt store ip ↔ (∃ k, (k, q) ∈ store) ∧ indexable q = true ∧ q.ip = ip := by
  simp only [podsAt, List.mem_filter, List.mem_map, Prod.exists, exists_eq_right, Bool.and_eq_true, beq_iff_eq]

theorem mem_podsAt_nodup {store : Store} (hn : NodupKeys store) {ip : String} {q : Pod} :
    q ∈ podsAt store ip ↔ (∃ k, lookup k store = some q) ∧ indexable q = true ∧ q.ip = ip := by
  simp only [mem_podsAt, lookup_eq_some_iff hn]

def MemoOK (cfg : Config Pat) (s : State) : Prop :=
  ∀ ip inst, lookup ip s.memo = some (some inst) → ∃ q, q ∈ podsAt s.store ip ∧ inst = derive cfg q

def Inv (cfg : Config Pat) (s : State) : Prop := NodupKeys s.store ∧ MemoOK cfg s

theorem inv_init (cfg : Config Pat) : Inv cfg init := ⟨nodupKeys_nil, fun _ _ h => nomatch h⟩

@[simp] theorem invalidate_store (s : State) (p : Pod) : (invalidate s p).store = s.store := by
  unfold invalidate; split <;> rfl

theorem invalidate_memo {s : State} {p : Pod} {ip : String} {x : Option Inst}
    (h : lookup ip (invalidate s p).memo = some x) :
    lookup ip s.memo = some x ∧ (indexable p = true → p.ip ≠ ip) := by
  unfold invalidate at h
  split at h
  · rw [lookup_erase] at h
    split at h
    · cases h
    · next he => exact ⟨h, fun _ => he⟩
  · next hi => exact ⟨h, fun hh => absurd hh hi⟩

theorem foldl_invalidate_store (l : List Pod) (s : State) : (l.foldl invalidate s).store = s.store :=
  List.foldlRecOn (motive := fun s' : State => s'.store = s.store) l _ rfl fun s' hs p _ => (invalidate_store s' p).trans hs

theorem foldl_invalidate_memo (l : List Pod) {s : State} {ip : String} {x : Option Inst}
    (h : lookup ip (l.foldl invalidate s).memo = some x) : lookup ip s.memo = some x :=
  List.foldlRecOn (motive := fun s' : State => lookup ip s'.memo = some x → lookup ip s.memo = some x) l _ id
    (fun _ hs _ _ h => hs (invalidate_memo h).1) h

theorem step_store (cfg : Config Pat) (s : State) (op : Op) :
    (step cfg s op).1.store = storeStep s.store op := by
  cases op with
  | apply p =>
    simp only [step, storeStep]
    split
    · rw [invalidate_store]
    · rfl
  | delete p => simp only [step, storeStep, invalidate_store]
  | resync => simp only [step, storeStep, foldl_invalidate_store]
  | lookup ip =>
    simp only [step, storeStep, instanceFromCache]
    split <;> rfl

theorem nodup_storeStep {store : Store} (h : NodupKeys store) (op : Op) : NodupKeys (storeStep store op) := by
  cases op with
  | apply p => exact nodupKeys_upsert _ _ h
  | delete p => exact nodupKeys_erase _ h
  | _ => exact h

theorem nodup_storeAfter {store : Store} (h : NodupKeys store) (ops : List Op) : NodupKeys (storeAfter store ops) := by
  induction ops generalizing store with
  | nil => exact h
  | cons op t ih => exact ih (nodup_storeStep h op)

def retired (store : Store) : Op → Option Pod
  | .apply p | .delete p => lookup p.key store
  | _ => none

theorem lookup_storeStep_of_ne {store : Store} {op : Op} {k : PodKey} {q : Pod} (hk : lookup k store = some q)
    (hr : retired store op ≠ some q) : lookup k (storeStep store op) = some q := by
  cases op with
  | apply p =>
    have : p.key ≠ k := fun e => hr (by rw [retired, e, hk])
    simp only [storeStep, lookup_upsert, this, if_false, hk]
  | delete p =>
    have : p.key ≠ k := fun e => hr (by rw [retired, e, hk])
    simp only [storeStep, lookup_erase, this, if_false, hk]
  | _ => exact hk

theorem mem_podsAt_storeStep {store : Store} (hn : NodupKeys store) {op : Op} {ip : String} {q : Pod}
    (hq : q ∈ podsAt store ip) (hr : retired store op ≠ some q) : q ∈ podsAt (storeStep store op) ip := by
  rw [mem_podsAt_nodup hn] at hq
  rw [mem_podsAt_nodup (nodup_storeStep hn op)]
  obtain ⟨⟨k, hk⟩, h⟩ := hq
  exact ⟨⟨k, lookup_storeStep_of_ne hk hr⟩, h⟩

/-- a Deleted event drops the entry of the pod it retires because it carries the stored version (`okOp`) -/
theorem memo_step_event {cfg : Config Pat} {s : State} {op : Op} (hok : okOp s.store op = true)
    (hev : ∀ ip, op ≠ .lookup ip) {ip : String} {x : Option Inst}
    (h : lookup ip (step cfg s op).1.memo = some x) :
    lookup ip s.memo = some x ∧ ∀ q, retired s.store op = some q → indexable q = true → q.ip ≠ ip := by
  cases op with
  | apply p =>
    simp only [step] at h
    split at h
    · next old hold =>
      obtain ⟨h0, hne⟩ := invalidate_memo h
      exact ⟨h0, fun q hq => Option.some.inj (hold.symm.trans hq) ▸ hne⟩
    · next hold => exact ⟨h, fun q hq => nomatch hold.symm.trans hq⟩
  | delete p =>
    simp only [step] at h
    obtain ⟨h0, hne⟩ := invalidate_memo h
    refine ⟨h0, fun q hq => ?_⟩
    simp only [okOp, show lookup p.key s.store = some q from hq, decide_eq_true_eq] at hok
    exact hok ▸ hne
  | resync => exact ⟨foldl_invalidate_memo _ h, fun q hq => nomatch hq⟩
  | lookup ip₀ => exact absurd rfl (hev ip₀)

theorem fromInformer_some {cfg : Config Pat} {store : Store} {ip : String} {inst : Inst}
    (h : fromInformer cfg store ip = some inst) : ∃ q, q ∈ podsAt store ip ∧ inst = derive cfg q := by
  unfold fromInformer at h
  cases hh : (podsAt store ip).head? with
  | none => rw [hh] at h; cases h
  | some q => rw [hh] at h; exact ⟨q, List.mem_of_mem_head? hh, (Option.some.inj h).symm⟩

theorem memoOK_lookupWrite {cfg : Config Pat} {s : State} (hm : MemoOK cfg s) {ip : String} {r : Option Inst}
    (hr : ∀ inst, r = some inst → ∃ q, q ∈ podsAt s.store ip ∧ inst = derive cfg q) :
    MemoOK cfg (lookupWrite s ip r) := by
  intro ip' inst h
  simp only [lookupWrite, lookup_upsert] at h
  split at h
  · next e => subst e; exact hr inst (Option.some.inj h)
  · exact hm ip' inst h

theorem inv_step (cfg : Config Pat) {s : State} (hinv : Inv cfg s) (op : Op) (hok : okOp s.store op = true) :
    Inv cfg (step cfg s op).1 := by
  obtain ⟨hn, hm⟩ := hinv
  refine ⟨by rw [step_store]; exact nodup_storeStep hn op, ?_⟩
  have event : (∀ ip, op ≠ .lookup ip) → MemoOK cfg (step cfg s op).1 := fun hev ip inst h => by
    obtain ⟨h0, hne⟩ := memo_step_event hok hev h
    obtain ⟨q, hq, hd⟩ := hm ip inst h0
    have hq' := (mem_podsAt.1 hq).2
    rw [step_store]
    exact ⟨q, mem_podsAt_storeStep hn hq fun hr => hne q hr hq'.1 hq'.2, hd⟩
  cases op with
  | lookup ip =>
    simp only [step, instanceFromCache]
    split
    · exact hm
    · exact memoOK_lookupWrite hm fun inst => fromInformer_some
  | _ => exact event fun _ => Op.noConfusion

theorem specAnswer_of_mem (cfg : Config Pat) {store : Store} (hd : distinctIPs store = true) {ip : String} {q : Pod}
    (hq : q ∈ podsAt store ip) : specAnswer cfg store ip = some (derive cfg q) := by
  obtain ⟨⟨k, hk⟩, hi, rfl⟩ := mem_podsAt.1 hq
  have := find?_eq_some_of_nodup_map indexable (·.ip) _ (of_decide_eq_true hd) (List.mem_map.2 ⟨_, hk, rfl⟩) hi
  simp only [specAnswer, funext (holds_eq q.ip), this, Option.map_some]

theorem fromInformer_eq_spec (cfg : Config Pat) (store : Store) (ip : String) :
    fromInformer cfg store ip = specAnswer cfg store ip := by
  unfold fromInformer specAnswer
  rw [podsAt_eq_filter_holds, List.head?_filter]

theorem answer_eq_spec (cfg : Config Pat) {s : State} (hinv : Inv cfg s) (hd : distinctIPs s.store = true) (ip : String) :
    (instanceFromCache cfg s ip).2 = specAnswer cfg s.store ip := by
  unfold instanceFromCache
  split
  · next inst hhit =>
    obtain ⟨q, hq, hdq⟩ := hinv.2 ip inst hhit
    rw [specAnswer_of_mem cfg hd hq, hdq]
  · exact fromInformer_eq_spec cfg s.store ip

theorem answer_from_current (cfg : Config Pat) {s : State} (hinv : Inv cfg s) (ip : String) (inst : Inst)
    (h : (instanceFromCache cfg s ip).2 = some inst) : ∃ q, q ∈ podsAt s.store ip ∧ inst = derive cfg q := by
  unfold instanceFromCache at h
  split at h
  · next inst₀ hhit => exact Option.some.inj h ▸ hinv.2 ip inst₀ hhit
  · exact fromInformer_some h

theorem run_append (cfg : Config Pat) (s : State) (a b : List Op) :
    run cfg s (a ++ b) = run cfg s a ++ run cfg (stateAfter cfg s a) b := by
  induction a generalizing s with
  | nil => rfl
  | cons op t ih => simp [run, stateAfter, ih]

theorem run_length (cfg : Config Pat) (s : State) (a : List Op) : (run cfg s a).length = a.length := by
  induction a generalizing s with
  | nil => rfl
  | cons op t ih => simp [run, ih]

theorem stateAfter_store (cfg : Config Pat) (s : State) (ops : List Op) :
    (stateAfter cfg s ops).store = storeAfter s.store ops := by
  induction ops generalizing s with
  | nil => rfl
  | cons op t ih => simp [stateAfter, storeAfter, ih, step_store]

theorem consistent_append {store : Store} {a b : List Op} (h : consistent store (a ++ b) = true) :
    consistent store a = true ∧ consistent (storeAfter store a) b = true := by
  induction a generalizing store with
  | nil => exact ⟨rfl, h⟩
  | cons op t ih =>
    simp only [List.cons_append, consistent, Bool.and_eq_true] at h
    obtain ⟨h1, h2⟩ := ih h.2
    exact ⟨by simp [consistent, h.1, h1], h2⟩

theorem inv_stateAfter (cfg : Config Pat) {s : State} (hinv : Inv cfg s) (ops : List Op)
    (hc : consistent s.store ops = true) : Inv cfg (stateAfter cfg s ops) := by
  induction ops generalizing s with
  | nil => exact hinv
  | cons op t ih =>
    simp only [consistent, Bool.and_eq_true] at hc
    apply ih (inv_step cfg hinv op hc.1)
    rw [step_store]; exact hc.2

theorem valid_cons {store : Store} {op : Op} {rest : List Op} :
    valid store (op :: rest) = true ↔
      okOp store op = true ∧ distinctIPs (storeStep store op) = true ∧ valid (storeStep store op) rest = true := by
  rw [valid, Bool.and_eq_true, Bool.and_eq_true, and_assoc]

theorem valid_consistent {store : Store} {ops : List Op} (h : valid store ops = true) : consistent store ops = true := by
  induction ops generalizing store with
  | nil => rfl
  | cons op t ih =>
    obtain ⟨hok, _, hrest⟩ := valid_cons.1 h
    rw [consistent, hok, ih hrest]; rfl

theorem xrunG_plain (fixed : Bool) (cfg : Config Pat) (s : State) (ops : List Op) :
    xrunG fixed cfg s (ops.map .plain) = run cfg s ops := by
  induction ops generalizing s with
  | nil => rfl
  | cons op t ih => simp only [List.map_cons, xrunG, run, xstepG, ih]

theorem xrun_plain (cfg : Config Pat) (s : State) (ops : List Op) : xrun cfg s (ops.map .plain) = run cfg s ops :=
  xrunG_plain _ cfg s ops

theorem xspecRun_plain (cfg : Config Pat) (store : Store) (ops : List Op) :
    xspecRun cfg store (ops.map .plain) = specRun cfg store ops := by
  induction ops generalizing store with
  | nil => rfl
  | cons op t ih => simp only [List.map_cons, xspecRun, specRun, ih]

theorem xops_plain (ops : List Op) : xops (ops.map .plain) = ops := by
  induction ops with
  | nil => rfl
  | cons op t ih => exact congrArg (op :: ·) ih

theorem podsAt_survives {s : State} (hn : NodupKeys s.store) {ev : Op} (hok : okOp s.store ev = true)
    (hni : eventInvalidates s ev = false) {ip : String} {q : Pod} (hq : q ∈ podsAt s.store ip) :
    q ∈ podsAt (storeStep s.store ev) ip := by
  refine mem_podsAt_storeStep hn hq fun hr => ?_
  have hi : indexable q = true := (mem_podsAt.1 hq).2.1
  cases ev with
  | apply p => simp only [eventInvalidates, show lookup p.key s.store = some q from hr, hi] at hni; cases hni
  | delete p =>
    simp only [retired] at hr
    simp only [okOp, hr, decide_eq_true_eq] at hok
    simp only [eventInvalidates, ← hok, hi] at hni; cases hni
  | _ => cases hr

theorem race_step_fixed (cfg : Config Pat) {s : State} (hinv : Inv cfg s) (hd : distinctIPs s.store = true)
    (ip : String) (ev : Op) (hok : okOp s.store ev = true) :
    (xstepG true cfg s (.race ip ev)).2 = .ans (specAnswer cfg s.store ip) ∧
    Inv cfg (xstepG true cfg s (.race ip ev)).1 ∧
    (xstepG true cfg s (.race ip ev)).1.store = storeStep s.store ev := by
  have hinv' := inv_step cfg hinv ev hok
  have hst := step_store cfg s ev
  have hr : lookupRead cfg s ip = specAnswer cfg s.store ip := fromInformer_eq_spec cfg s.store ip
  simp only [xstepG]
  split
  · next inst hhit =>
    obtain ⟨q, hq, hdq⟩ := hinv.2 ip inst hhit
    exact ⟨by rw [specAnswer_of_mem cfg hd hq, hdq], hinv', hst⟩
  · split
    · exact ⟨by rw [hr], hinv', hst⟩
    · next hi =>
      have hi' : eventInvalidates s ev = false := by simpa only [Bool.true_and, Bool.not_eq_true] using hi
      refine ⟨by rw [hr], ⟨hinv'.1, memoOK_lookupWrite hinv'.2 fun inst h => ?_⟩, hst⟩
      obtain ⟨q, hq, hdq⟩ := fromInformer_some h
      exact ⟨q, hst ▸ podsAt_survives hinv.1 hok hi' hq, hdq⟩

theorem step_out (cfg : Config Pat) {s : State} (hinv : Inv cfg s) (op : Op) :
    distinctIPs (storeStep s.store op) = true →
    (step cfg s op).2 = match op with | .lookup ip => Out.ans (specAnswer cfg s.store ip) | _ => Out.ev := by
  intro hd
  cases op with
  | apply p => simp only [step]; split <;> rfl
  | lookup ip => simp only [step, answer_eq_spec cfg hinv hd ip]  -- `storeStep s.store (.lookup ip)` is `s.store`
  | _ => rfl

theorem xrunG_fixed_eq_spec (cfg : Config Pat) (l : List XOp) (s : State) (hinv : Inv cfg s)
    (hv : valid s.store (xops l) = true) : xrunG true cfg s l = xspecRun cfg s.store l := by
  induction l generalizing s with
  | nil => rfl
  | cons x t ih =>
    cases x with
    | plain op =>
      obtain ⟨hok, hd, hrest⟩ := valid_cons.1 (show valid s.store (op :: xops t) = true from hv)
      simp only [xrunG, xspecRun, xstepG]
      rw [ih _ (inv_step cfg hinv op hok) (by rw [step_store]; exact hrest), step_store, step_out cfg hinv op hd]
      cases op <;> rfl
    | race ip ev =>
      obtain ⟨_, hd, hv'⟩ := valid_cons.1 (show valid s.store (.lookup ip :: ev :: xops t) = true from hv)
      obtain ⟨hok, _, hrest⟩ := valid_cons.1 hv'
      obtain ⟨hans, hinv', hst⟩ := race_step_fixed cfg hinv hd ip ev hok
      simp only [xrunG, xspecRun]
      rw [ih _ hinv' (by rw [hst]; exact hrest), hst, hans]

end Gsd.K8s

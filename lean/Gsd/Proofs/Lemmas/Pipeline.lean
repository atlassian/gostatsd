import Gsd.Model.Pipeline
import Gsd.Proofs.Lemmas.Split
import Gsd.Proofs.Lemmas.MetricMap
import Mathlib.Algebra.BigOperators.Group.List.Basic
/-! The pipeline transition system (C01): folds in an explicit commutative monoid, the enabled transitions `Step`
with the structural invariant `Inv`, additive observations (`Measure`), and the four typed sub-maps with what `Merge`,
`Reset` and `Split` do to one series in them (`Field`). -/
namespace Gsd

/-- a commutative monoid given explicitly (so that `Bool` with `||` fits as well as `+`) -/
structure CMon (M : Type) where
  op : M → M → M
  e : M
  assoc : ∀ a b c, op (op a b) c = op a (op b c)
  comm : ∀ a b, op a b = op b a
  id_left : ∀ a, op e a = a

namespace CMon
variable {M : Type} (C : CMon M)

theorem id_right (a : M) : C.op a C.e = a := by rw [C.comm, C.id_left]

def fold (l : List M) : M := l.foldr C.op C.e

@[simp] theorem fold_nil : C.fold [] = C.e := rfl
@[simp] theorem fold_cons (a : M) (l : List M) : C.fold (a :: l) = C.op a (C.fold l) := rfl

theorem fold_append (l₁ l₂ : List M) : C.fold (l₁ ++ l₂) = C.op (C.fold l₁) (C.fold l₂) := by
  induction l₁ with
  | nil => simp [C.id_left]
  | cons a t ih => simp [ih, C.assoc]

theorem fold_singleton (a : M) : C.fold [a] = a := by simp [C.id_right]

theorem fold_eq_e (l : List M) (h : ∀ x ∈ l, x = C.e) : C.fold l = C.e := by
  induction l with
  | nil => rfl
  | cons a t ih => rw [fold_cons, h a List.mem_cons_self, C.id_left, ih fun x hx => h x (List.mem_cons_of_mem _ hx)]

theorem fold_map_eraseIdx {β} (μ : β → M) (l : List β) (i : Nat) (x : β) (h : l[i]? = some x) :
    C.fold (l.map μ) = C.op (μ x) (C.fold ((l.eraseIdx i).map μ)) := by
  induction l generalizing i with
  | nil => cases h
  | cons a t ih =>
    cases i with
    | zero => cases h; rfl
    | succ i =>
      rw [List.eraseIdx_cons_succ, List.map_cons, List.map_cons, fold_cons, fold_cons, ih i h, ← C.assoc, C.comm (μ a),
        C.assoc]

theorem fold_modify {β} (μ : β → M) (l : List β) (i : Nat) (f : β → β) (d : M) (hi : i < l.length)
    (hf : ∀ x, μ (f x) = C.op (μ x) d) :
    C.fold ((l.modify i f).map μ) = C.op (C.fold (l.map μ)) d := by
  have hx : l[i]? = some l[i] := List.getElem?_eq_getElem hi
  rw [C.fold_map_eraseIdx μ _ i (f l[i]) (by rw [List.getElem?_modify_eq, hx]; rfl), C.fold_map_eraseIdx μ l i _ hx,
    List.eraseIdx_modify_of_eq, hf, C.assoc, C.assoc, C.comm d]

theorem fold_set {β} (μ : β → M) (l : List β) (i : Nat) (y : β) (d : M) (x : β) (hx : l[i]? = some x)
    (hf : μ x = C.op (μ y) d) :
    C.fold (l.map μ) = C.op (C.fold ((l.set i y).map μ)) d := by
  rw [C.fold_map_eraseIdx μ l i x hx, C.fold_map_eraseIdx μ (l.set i y) i y (by rw [List.getElem?_set_self', hx]; rfl),
    List.eraseIdx_set_eq, hf, C.assoc, C.assoc, C.comm d]

theorem fold_filter {β} (μ : β → M) (l : List β) (p : β → Bool) (hp : ∀ x ∈ l, p x = false → μ x = C.e) :
    C.fold ((l.filter p).map μ) = C.fold (l.map μ) := by
  induction l with
  | nil => rfl
  | cons a t ih =>
    have iht := ih (fun x hx => hp x (by simp [hx]))
    by_cases h : p a = true
    · simp [h, iht]
    · have : p a = false := by simpa using h
      simp [this, iht, hp a (by simp) this, C.id_left]

theorem fold_range_single (n c : Nat) (hc : c < n) (f : Nat → M) (hf : ∀ i, i < n → i ≠ c → f i = C.e) :
    C.fold ((List.range n).map f) = f c := by
  rw [C.fold_map_eraseIdx f _ c c (List.getElem?_range hc), C.fold_eq_e _ ?_, C.id_right]
  intro x hx
  obtain ⟨i, hi, rfl⟩ := List.mem_map.mp hx
  obtain ⟨j, hne, hj⟩ := List.mem_eraseIdx_iff_getElem?.mp hi
  obtain ⟨hjn, rfl⟩ : j < n ∧ j = i := by simpa [List.getElem?_eq_some_iff] using hj
  exact hf j hjn hne

end CMon

open AList
variable {α : Type} [AddCommMonoid α]

/-- An additive observation of a metric map: a monoid-valued function that `Merge` adds up, `Reset`
clears, and `Split`/`DispatchMetricMap` distributes over the pieces. -/
structure Measure (α : Type) [AddCommMonoid α] (M : Type) where
  C : CMon M
  μ : MM α → M
  empty : μ MM.empty = C.e
  merge : ∀ a b : MM α, b.WF → μ (MM.merge a b) = C.op (μ a) (μ b)
  reset : ∀ (ex : Key → Bool) (a : MM α), a.WF → μ (Pipeline.reset ex a) = C.e
  split : ∀ (h : Key → Nat) (n : Nat) (m : MM α), 0 < n → m.WF →
    C.fold ((MMap.dispatch h n m).map (fun p => μ p.2)) = μ m

namespace Pipeline

theorem reset_wf (ex : Key → Bool) (a : MM α) (h : a.WF) : (reset ex a).WF := by
  obtain ⟨h1, h2, h3, h4⟩ := h
  exact ⟨nodupKeys_filterMapVals _ h1, nodupKeys_filterMapVals _ h2, nodupKeys_filterMapVals _ h3, nodupKeys_filterMapVals _ h4⟩

inductive Step (ops : NumOps α) (h : Key → Nat) (n : Nat) (s : State α) : State α → Prop
  | arrive (ds : List (Dp α)) : Step ops h n s
      { s with pending := s.pending ++ MMap.dispatch h n (MM.receiveAll ops MM.empty ds),
               arrived := s.arrived ++ [MM.receiveAll ops MM.empty ds] }
  | enqueue (j i : Nat) (p : MM α) (hj : s.pending[j]? = some (i, p)) (hi : i < s.queues.length) : Step ops h n s
      { s with pending := s.pending.eraseIdx j, queues := s.queues.modify i (· ++ [p]) }
  | deliver (i : Nat) (p : MM α) (rest : List (MM α)) (hq : s.queues[i]? = some (p :: rest)) (hi : i < s.aggs.length) :
      Step ops h n s { s with queues := s.queues.set i rest, aggs := s.aggs.modify i (fun a => MM.merge a p) }
  | flush (i : Nat) (ex : Key → Bool) (a : MM α) (ha : s.aggs[i]? = some a) : Step ops h n s
      { s with flushed := s.flushed ++ [(i, a)], aggs := s.aggs.set i (reset ex a) }

theorem step_sound {ops : NumOps α} {h : Key → Nat} {n : Nat} {s s' : State α} {a : Action α}
    (hs : step ops h n s a = some s') : Step ops h n s s' := by
  cases a with
  | arrive ds => cases hs; exact .arrive ds
  | enqueue j =>
    simp only [step] at hs
    split at hs
    · cases hs
    · next i p hj =>
      split at hs
      · next hi => cases hs; exact .enqueue j i p hj hi
      · cases hs
  | deliver i =>
    simp only [step] at hs
    split at hs
    · next p rest hq =>
      split at hs
      · next hi => cases hs; exact .deliver i p rest hq hi
      · cases hs
    · cases hs
  | flushShard i ex =>
    simp only [step] at hs
    split at hs
    · cases hs
    · next a ha => cases hs; exact .flush i ex a ha

theorem run_induction {ops : NumOps α} {h : Key → Nat} {n : Nat} {P : State α → Prop}
    (hstep : ∀ s s', P s → Step ops h n s s' → P s') (as : List (Action α)) (s : State α) (hs : P s) :
    P (run ops h n s as) :=
  List.foldlRecOn as _ hs fun s hs a _ => by
    cases e : step ops h n s a with
    | none => exact hs
    | some s' => exact hstep s s' hs (step_sound e)

def Inv (n : Nat) (s : State α) : Prop :=
  (∀ p ∈ s.pending, p.2.WF ∧ p.1 < n) ∧ (∀ q ∈ s.queues, ∀ m ∈ q, m.WF) ∧ (∀ a ∈ s.aggs, a.WF) ∧
  (∀ p ∈ s.flushed, p.2.WF) ∧ s.aggs.length = n ∧ s.queues.length = n

theorem inv_step (ops : NumOps α) (h : Key → Nat) (n : Nat) (s s' : State α)
    (hinv : Inv n s) (hs : Step ops h n s s') : Inv n s' := by
  obtain ⟨h1, h2, h3, hf, h4, h5⟩ := hinv
  cases hs with
  | arrive ds =>
    exact ⟨List.forall_mem_append.mpr ⟨h1, MMap.dispatch_wf h n _⟩, h2, h3, hf, h4, h5⟩
  | enqueue j i p hj hi =>
    refine ⟨fun q hq => h1 q (List.mem_of_mem_eraseIdx hq), ?_, h3, hf, h4, by simpa using h5⟩
    exact forall_mem_modify h2 i fun q hq =>
      List.forall_mem_append.mpr ⟨h2 q hq, by simpa using (h1 _ (List.mem_of_getElem? hj)).1⟩
  | deliver i p rest hq hi =>
    have hq' := h2 _ (List.mem_of_getElem? hq)
    exact ⟨h1, forall_mem_set h2 i fun m hm => hq' m (List.mem_cons_of_mem _ hm),
      forall_mem_modify h3 i fun a ha => merge_wf _ _ (h3 a ha), hf, by simpa using h4, by simpa using h5⟩
  | flush i ex a ha =>
    have hwf := h3 a (List.mem_of_getElem? ha)
    exact ⟨h1, h2, forall_mem_set h3 i (reset_wf ex a hwf),
      List.forall_mem_append.mpr ⟨hf, by simpa using hwf⟩, by simpa using h4, h5⟩

omit [AddCommMonoid α] in
theorem inv_init (n : Nat) : Inv n (init n : State α) := by
  refine ⟨by simp [init], ?_, ?_, by simp [init], by simp [init], by simp [init]⟩
  · intro q hq m hm; simp [init] at hq; rw [hq.2] at hm; simp at hm
  · intro a ha; simp [init] at ha; rw [ha.2]; exact empty_wf

def total {M} (ms : Measure α M) (s : State α) : M :=
  ms.C.op (ms.C.op (ms.C.fold (s.flushed.map (fun p => ms.μ p.2))) (ms.C.fold (s.aggs.map ms.μ)))
    (ms.C.op (ms.C.fold (s.queues.map (fun q => ms.C.fold (q.map ms.μ)))) (ms.C.fold (s.pending.map (fun p => ms.μ p.2))))

end Pipeline

structure Field (α : Type) [AddCommMonoid α] (ν : Type) where
  get : MM α → AList Key ν
  comb : ν → ν → ν
  clear : ν → ν
  get_isEmpty : ∀ p : MM α, p.isEmpty = true → get p = []
  lookup_merge : ∀ (a b : MM α), b.WF → ∀ k,
    lookup k (get (MM.merge a b)) = optComb comb (lookup k (get a)) (lookup k (get b))
  lookup_reset : ∀ (ex : Key → Bool) (a : MM α), a.WF → ∀ k,
    lookup k (get (Pipeline.reset ex a)) = (lookup k (get a)).bind fun v => if ex k then none else some (clear v)
  lookup_split : ∀ (h : Key → Nat) (n : Nat) (m : MM α), m.WF → ∀ i, i < n → ∀ k,
    lookup k (get ((m.split h n)[i]?.getD {})) = if h k % n = i then lookup k (get m) else none

/-- the series is in piece `h k % n` only, and a piece that is skipped as empty holds nothing -/
theorem Field.fold_dispatch {ν M} (F : Field α ν) (C : CMon M) (g : Option ν → M) (hg : g none = C.e) (k : Key)
    (h : Key → Nat) (n : Nat) (hn : 0 < n) (m : MM α) (hm : m.WF) :
    C.fold ((MMap.dispatch h n m).map fun p => g (lookup k (F.get p.2))) = g (lookup k (F.get m)) := by
  rw [MMap.dispatch_eq, C.fold_filter (fun p : Nat × MM α => g (lookup k (F.get p.2))) _ _ fun p _ hp => by
    rw [F.get_isEmpty p.2 (by simpa using hp)]; exact hg, List.map_map,
    C.fold_range_single n (h k % n) (Nat.mod_lt _ hn) _ fun i hi hne => by
      rw [Function.comp, F.lookup_split h n m hm i hi k, if_neg (Ne.symm hne), hg],
    Function.comp, F.lookup_split h n m hm _ (Nat.mod_lt _ hn) k, if_pos rfl]

def Field.counters : Field α Counter where
  get := (·.counters)
  comb := mergeCounter
  clear c := { c with value := 0 }
  get_isEmpty p hp := ((MMap.isEmpty_iff p).mp hp).1
  lookup_merge _ _ hb k := lookup_mergeWith _ _ _ hb.1 k
  lookup_reset _ _ hw k := lookup_filterMapVals _ k hw.1
  lookup_split h n m hm i hi k := (MMap.lookup_split h n m hm i hi k).1

def Field.timers : Field α (Timer α) where
  get := (·.timers)
  comb := mergeTimer
  clear t := { t with values := [], sampled := 0 }
  get_isEmpty p hp := ((MMap.isEmpty_iff p).mp hp).2.1
  lookup_merge _ _ hb k := lookup_mergeWith _ _ _ hb.2.1 k
  lookup_reset _ _ hw k := lookup_filterMapVals _ k hw.2.1
  lookup_split h n m hm i hi k := (MMap.lookup_split h n m hm i hi k).2.1

def Field.gauges : Field α (Gauge α) where
  get := (·.gauges)
  comb := mergeGauge
  clear g := g
  get_isEmpty p hp := ((MMap.isEmpty_iff p).mp hp).2.2.1
  lookup_merge _ _ hb k := lookup_mergeWith _ _ _ hb.2.2.1 k
  lookup_reset _ _ hw k := lookup_filterMapVals _ k hw.2.2.1
  lookup_split h n m hm i hi k := (MMap.lookup_split h n m hm i hi k).2.2.1

def Field.sets : Field α SetV where
  get := (·.sets)
  comb := mergeSet
  clear s := { s with members := [] }
  get_isEmpty p hp := ((MMap.isEmpty_iff p).mp hp).2.2.2
  lookup_merge _ _ hb k := lookup_mergeWith _ _ _ hb.2.2.2 k
  lookup_reset _ _ hw k := lookup_filterMapVals _ k hw.2.2.2
  lookup_split h n m hm i hi k := (MMap.lookup_split h n m hm i hi k).2.2.2

def Field.measure {ν M} (F : Field α ν) (C : CMon M) (g : ν → M) (hcomb : ∀ x y, g (F.comb x y) = C.op (g x) (g y))
    (hclear : ∀ x, g (F.clear x) = C.e) (k : Key) : Measure α M where
  C := C
  μ m := ((lookup k (F.get m)).map g).getD C.e
  empty := by rw [F.get_isEmpty _ rfl]; rfl
  merge a b hb := by
    rw [F.lookup_merge a b hb k]
    cases lookup k (F.get a) <;> cases lookup k (F.get b)
    exacts [(C.id_left _).symm, (C.id_left _).symm, (C.id_right _).symm, hcomb _ _]
  reset ex a hw := by
    rw [F.lookup_reset ex a hw k]
    cases lookup k (F.get a) with
    | none => rfl
    | some v => cases ex k; exacts [hclear v, rfl]
  split h n m hn hm := F.fold_dispatch C (fun o => (o.map g).getD C.e) rfl k h n hn m hm

end Gsd

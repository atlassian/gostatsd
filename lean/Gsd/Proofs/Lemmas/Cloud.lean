import Gsd.Model.Cloud
import Gsd.Proofs.Lemmas.Tags
/-! Lemmas for C11 (cloud stage).  Every operation of the stage is stated once as a record update (`deliver_eq`,
`step_arriveMetrics`, `step_info`), so that what it does to any field is read off by `rw`.  `Elem` are the elementary
transitions an action is made of; `step_cases` lifts what they preserve between well-formed states (`WFst`) to actions,
`run_inv` to runs, and the two invariants `OutInv`, `GaugeInv` are proved that way.  A map built entry by entry is `MergeMaps`
of one-entry maps, so C07's `AggMM` applies.  The ledger (arrived = delivered ⊎ parked) has two independent halves, `EvOK` and
`MetOK`, whose ghosts grow by what each action hands over. -/
namespace Gsd

namespace Cloud
open AList

section machine
variable {α : Type}

theorem deliver_eq (st : St α) (ds : List (Delivery α)) : deliver st ds =
    { st with held := if st.blocked then st.held ++ ds else st.held,
              delivered := if st.blocked then st.delivered else st.delivered ++ ds } := by
  unfold deliver; split <;> rfl

theorem deliver_nil (st : St α) : deliver st [] = st := by simp [deliver_eq]

theorem outbound_deliver (st : St α) (ds : List (Delivery α)) (hh : st.blocked = false → st.held = []) :
    outbound (deliver st ds) = outbound st ++ ds := by
  cases hb : st.blocked <;> simp [deliver_eq, outbound, hb, hh]

structure WFst (st : St α) : Prop where
  ndM : NodupKeys st.awaitingMetrics
  ndE : NodupKeys st.awaitingEvents
  neE : ∀ s l, lookup s st.awaitingEvents = some l → l ≠ []
  srcE : ∀ s l, lookup s st.awaitingEvents = some l → ∀ e ∈ l, e.src = s
  heldOK : st.blocked = false → st.held = []

theorem wf_init : WFst (init : St α) :=
  ⟨List.nodup_nil, List.nodup_nil, by intro s l h; simp [init] at h, by intro s l h; simp [init] at h, fun _ => rfl⟩

theorem WFst.ne_nil {st : St α} (h : WFst st) (s : String) : lookup s st.awaitingEvents ≠ some [] :=
  fun hl => h.neE s [] hl rfl

theorem wf_deliver (st : St α) (ds : List (Delivery α)) (h : WFst st) : WFst (deliver st ds) := by
  rw [deliver_eq]
  exact ⟨h.ndM, h.ndE, h.neE, h.srcE, fun hb => by simp [show st.blocked = false from hb, h.heldOK hb]⟩

theorem noMetrics_eq (st : St α) (s : String) : noMetrics st s = !(lookup s st.awaitingMetrics).isSome :=
  (Option.not_isSome _).symm

theorem noEvents_eq {st : St α} (h : WFst st) (s : String) : noEvents st s = !(lookup s st.awaitingEvents).isSome := by
  unfold noEvents
  cases hl : lookup s st.awaitingEvents with
  | none => rfl
  | some l =>
    cases l with
    | nil => exact absurd hl (h.ne_nil s)
    | cons x t => rfl

theorem releaseEvents_eq (st : St α) (s : String) (r : Option Inst) (hne : lookup s st.awaitingEvents ≠ some []) :
    releaseEvents st s r = deliver
    { st with awaitingEvents := AList.erase s st.awaitingEvents
              eventItems := st.eventItems - (((lookup s st.awaitingEvents).getD []).length : Int)
              eventHosts := st.eventHosts - (if (lookup s st.awaitingEvents).isSome then 1 else 0) }
    (((lookup s st.awaitingEvents).getD []).map fun e => .event (enrichEvent r e)) := by
  unfold releaseEvents
  cases h : lookup s st.awaitingEvents with
  | none => simp [erase_of_lookup_none h, deliver_nil]
  | some l =>
    cases l with
    | nil => exact absurd h hne
    | cons e es => simp

variable [Add α]

theorem addTo_ne_empty (e : Ent α) (m : MM α) : (e.addTo m).isEmpty = false := by
  cases e <;>
    simp only [Ent.addTo, MMap.isEmpty, List.isEmpty_eq_false_iff.mpr (upsert_ne_nil _ _ _), Bool.false_and, Bool.and_false]

theorem isEmpty_ofEntries (es : List (Ent α)) : (ofEntries es).isEmpty = es.isEmpty := by
  cases es with
  | nil => rfl
  | cons e t =>
    exact List.foldlRecOn t _ (motive := fun m => m.isEmpty = false) (addTo_ne_empty e MM.empty) fun m _ x _ => addTo_ne_empty x m

def handedOver (st : St α) : Action α → List (Delivery α)
  | .arriveMetrics b pk =>
    if ((entries b).filter (fun e => isHit pk e.src)).isEmpty then []
    else [.metrics (rekeyEntries (instOf pk) ((entries b).filter (fun e => isHit pk e.src)))]
  | .arriveEvent e pk => ((cacheView pk e.src).map fun i => .event (enrichEvent i e)).toList
  | .info s r =>
    ((lookup s st.awaitingMetrics).map fun m => .metrics (rekeyEntries (fun _ => r) (entries m))).toList ++
    ((lookup s st.awaitingEvents).getD []).map fun e => .event (enrichEvent r e)
  | _ => []

theorem step_arriveMetrics (fix : Bool) (st : St α) (b : MM α) (pk : Peek) :
    step fix st (.arriveMetrics b pk) =
      ((entries b).filter (fun e => !isHit pk e.src)).foldl (parkEnt fix)
        (deliver { st with cacheHit := st.cacheHit + (countQueries pk ((entries b).map Ent.src)).1,
                           cacheMiss := st.cacheMiss + (countQueries pk ((entries b).map Ent.src)).2 }
          (handedOver st (.arriveMetrics b pk))) := by
  simp only [step, handedOver, rekeyEntries, isEmpty_ofEntries, List.isEmpty_map]
  split <;> simp [deliver_nil]

@[simp] theorem parkEnt_delivered (fix : Bool) (st : St α) (e : Ent α) : (parkEnt fix st e).delivered = st.delivered := rfl
@[simp] theorem parkEnt_held (fix : Bool) (st : St α) (e : Ent α) : (parkEnt fix st e).held = st.held := rfl
@[simp] theorem parkEnt_blocked (fix : Bool) (st : St α) (e : Ent α) : (parkEnt fix st e).blocked = st.blocked := rfl
@[simp] theorem parkEnt_awaitingEvents (fix : Bool) (st : St α) (e : Ent α) : (parkEnt fix st e).awaitingEvents = st.awaitingEvents := rfl
@[simp] theorem parkEnt_inFlight (fix : Bool) (st : St α) (e : Ent α) : (parkEnt fix st e).inFlight = st.inFlight := rfl
@[simp] theorem parkEnt_eventHosts (fix : Bool) (st : St α) (e : Ent α) : (parkEnt fix st e).eventHosts = st.eventHosts := rfl
@[simp] theorem parkEnt_eventItems (fix : Bool) (st : St α) (e : Ent α) : (parkEnt fix st e).eventItems = st.eventItems := rfl

theorem foldl_parkEnt_proj {β : Type} (f : St α → β) (fix : Bool) (hf : ∀ st e, f (parkEnt fix st e) = f st)
    (es : List (Ent α)) (st : St α) : f (es.foldl (parkEnt fix) st) = f st :=
  List.foldlRecOn es _ (motive := fun s => f s = f st) rfl fun s h e _ => (hf s e).trans h

theorem releaseMetrics_eq (st : St α) (s : String) (r : Option Inst) : releaseMetrics st s r = deliver
    { st with awaitingMetrics := AList.erase s st.awaitingMetrics
              metricHosts := st.metricHosts - (if (lookup s st.awaitingMetrics).isSome then 1 else 0) }
    ((lookup s st.awaitingMetrics).map fun m => .metrics (rekeyEntries (fun _ => r) (entries m))).toList := by
  unfold releaseMetrics
  cases h : lookup s st.awaitingMetrics with
  | none => simp [erase_of_lookup_none h, deliver_nil]
  | some m => simp

theorem step_info (fix : Bool) (st : St α) (s : String) (r : Option Inst) (hne : lookup s st.awaitingEvents ≠ some []) :
    step fix st (.info s r) = deliver
      { st with
        awaitingMetrics := AList.erase s st.awaitingMetrics
        awaitingEvents := AList.erase s st.awaitingEvents
        metricHosts := st.metricHosts - (if (lookup s st.awaitingMetrics).isSome then 1 else 0)
        eventHosts := st.eventHosts - (if (lookup s st.awaitingEvents).isSome then 1 else 0)
        eventItems := st.eventItems - (((lookup s st.awaitingEvents).getD []).length : Int)
        inFlight := st.inFlight.erase s } (handedOver st (.info s r)) := by
  have h1 := releaseMetrics_eq st s r
  have h2 := releaseEvents_eq (releaseMetrics st s r) s r (by rw [h1, deliver_eq]; exact hne)
  simp only [step, h2]
  simp only [h1, deliver_eq, handedOver]
  cases st.blocked <;> simp

/-- `E st s`: what the environment guarantees when `info s _` happens in `st`. -/
inductive Elem (E : St α → String → Prop) (fix : Bool) : St α → St α → Prop
  | count (st : St α) (h m : Nat) : Elem E fix st { st with cacheHit := h, cacheMiss := m }
  | deliver (st : St α) (ds : List (Delivery α)) : Elem E fix st (deliver st ds)
  | parkEnt (st : St α) (e : Ent α) : Elem E fix st (parkEnt fix st e)
  | parkEvent (st : St α) (e : Event) : Elem E fix st (parkEvent fix st e)
  | send (st : St α) (s : String) (rest : List String) : st.toLookup = s :: rest →
      Elem E fix st { st with toLookup := rest, inFlight := s :: st.inFlight, sent := st.sent ++ [s] }
  | info (st : St α) (s : String) (r : Option Inst) : E st s → Elem E fix st (step fix st (.info s r))
  | emit (st : St α) (x : Nat × Nat × Int × Int × Int) : Elem E fix st { st with emitted := st.emitted ++ [x] }
  | block (st : St α) : Elem E fix st { st with blocked := true }
  | unblock (st : St α) : Elem E fix st { st with blocked := false, delivered := st.delivered ++ st.held, held := [] }

theorem Elem.wf {E : St α → String → Prop} {fix : Bool} {st st' : St α} (he : Elem E fix st st') (h : WFst st) : WFst st' := by
  cases he with
  | count | send | emit => exact ⟨h.ndM, h.ndE, h.neE, h.srcE, h.heldOK⟩
  | deliver ds => exact wf_deliver st ds h
  | parkEnt e => exact ⟨nodupKeys_upsert _ _ h.ndM, h.ndE, h.neE, h.srcE, h.heldOK⟩
  | parkEvent e =>
    exact ⟨h.ndM, nodupKeys_upsert _ _ h.ndE, forall_lookup_upsert h.neE (by simp), forall_lookup_push h.srcE rfl, h.heldOK⟩
  | info s r =>
    rw [step_info fix st s r (h.ne_nil s)]
    exact wf_deliver _ _ ⟨nodupKeys_erase _ h.ndM, nodupKeys_erase _ h.ndE, fun s' l hl => h.neE s' l (lookup_of_erase hl),
      fun s' l hl => h.srcE s' l (lookup_of_erase hl), h.heldOK⟩
  | block => exact ⟨h.ndM, h.ndE, h.neE, h.srcE, fun hb => by simp at hb⟩
  | unblock => exact ⟨h.ndM, h.ndE, h.neE, h.srcE, fun _ => rfl⟩

theorem step_cases (P : St α → Prop) (E : St α → String → Prop) (fix : Bool)
    (hP : ∀ st st', Elem E fix st st' → WFst st → P st → P st')
    (st : St α) (a : Action α) (henv : ∀ s r, a = .info s r → E st s) (hw : WFst st) (h : P st) : P (step fix st a) := by
  have via : ∀ {st st'}, Elem E fix st st' → WFst st ∧ P st → WFst st' ∧ P st' := fun he h => ⟨he.wf h.1, hP _ _ he h.1 h.2⟩
  cases a with
  | arriveMetrics b pk =>
    rw [step_arriveMetrics]
    exact (List.foldlRecOn _ (parkEnt fix) (via (.deliver _ _) (via (.count st _ _) ⟨hw, h⟩)) fun s h e _ => via (.parkEnt s e) h).2
  | arriveEvent e pk =>
    simp only [step]
    split
    · exact (via (.deliver _ _) (via (.count st _ _) ⟨hw, h⟩)).2
    · exact (via (.parkEvent _ e) (via (.count st _ _) ⟨hw, h⟩)).2
  | sendLookup =>
    simp only [step]
    split
    · exact h
    · next s rest heq => exact hP _ _ (.send st s rest heq) hw h
  | info s r => exact hP _ _ (.info st s r (henv s r rfl)) hw h
  | emit => exact hP _ _ (.emit st _) hw h
  | block => exact hP _ _ (.block st) hw h
  | unblock => exact hP _ _ (.unblock st) hw h

theorem wf_step (fix : Bool) (st : St α) (a : Action α) (h : WFst st) : WFst (step fix st a) :=
  step_cases WFst (fun _ _ => True) fix (fun _ _ he h _ => he.wf h) st a (fun _ _ _ => trivial) h h

theorem wf_run (fix : Bool) (as : List (Action α)) : WFst (run fix as) :=
  List.foldlRecOn as (step fix) wf_init fun st h a _ => wf_step fix st a h

theorem run_inv (fix : Bool) (P : List (Action α) → St α → Prop) (h0 : P [] init)
    (hstep : ∀ as st a, WFst st → P as st → P (as ++ [a]) (step fix st a)) (as : List (Action α)) : P as (run fix as) := by
  have key : ∀ (as pre : List (Action α)) (st : St α), WFst st → P pre st → P (pre ++ as) (as.foldl (step fix) st) := by
    intro as
    induction as with
    | nil => intro pre st _ h; simpa using h
    | cons a t ih => intro pre st hw h; simpa using ih (pre ++ [a]) _ (wf_step fix st a hw) (hstep pre st a hw h)
  simpa [run] using key as [] init wf_init h0

theorem outbound_step (fix : Bool) (st : St α) (a : Action α) (hh : st.blocked = false → st.held = [])
    (hne : ∀ s r, a = .info s r → lookup s st.awaitingEvents ≠ some []) :
    outbound (step fix st a) = outbound st ++ handedOver st a := by
  cases a with
  | arriveMetrics b pk =>
    rw [step_arriveMetrics, foldl_parkEnt_proj outbound fix (fun _ _ => rfl)]
    exact outbound_deliver _ _ hh
  | arriveEvent e pk =>
    cases h : cacheView pk e.src with
    | some i => simp only [step, handedOver, h]; exact outbound_deliver _ _ hh
    | none => simp only [step, handedOver, h]; exact (List.append_nil _).symm
  | sendLookup => simp only [step]; split <;> exact (List.append_nil _).symm
  | info s r => rw [step_info fix st s r (hne s r rfl)]; exact outbound_deliver _ _ hh
  | emit | block => exact (List.append_nil _).symm
  | unblock => simp [handedOver, outbound, step]

end machine

section lookups
variable {α : Type}

def parked (st : St α) (s : String) : Bool :=
  (lookup s st.awaitingMetrics).isSome || (lookup s st.awaitingEvents).isSome

def ParkEffect (st st' : St α) (src : String) : Prop :=
  (∀ s, parked st' s = (parked st s || decide (s = src))) ∧
  st'.toLookup = (bif parked st src then st.toLookup else src :: st.toLookup) ∧ st'.inFlight = st.inFlight

theorem needLookup_eq {st : St α} (h : WFst st) (s : String) : (noMetrics st s && noEvents st s) = !parked st s := by
  rw [noMetrics_eq, noEvents_eq h, parked, Bool.not_or]

theorem parkEffect_parkEvent (fix : Bool) (st : St α) (e : Event) (h : WFst st) : ParkEffect st (parkEvent fix st e) e.src := by
  refine ⟨fun s => ?_, ?_, rfl⟩
  · simp only [parked, parkEvent, isSome_lookup_upsert, Bool.or_assoc]
  · simp only [parkEvent, Bool.and_comm (noEvents st e.src), needLookup_eq h]
    cases parked st e.src <;> rfl

/-- With `≥`: parked data always has a lookup on its way; with `=`: exactly one, and none otherwise. -/
def OutInv (R : Nat → Nat → Prop) (st : St α) : Prop :=
  ∀ s, R ((st.toLookup ++ st.inFlight).count s) (if parked st s then 1 else 0)

theorem outInv_of_parkEffect {R : Nat → Nat → Prop} (hR : ∀ a b, R a b → R (a + 1) (b + 1)) {st st' : St α} {src : String}
    (he : ParkEffect st st' src) (h : OutInv R st) : OutInv R st' := by
  intro s
  obtain ⟨e1, e2, e3⟩ := he
  have hs := h s
  rw [e1, e2, e3]
  by_cases hsrc : s = src
  · subst hsrc
    cases hp : parked st s with
    | false => rw [hp] at hs; simpa using hR _ _ hs
    | true => simpa [hp] using hs
  · cases parked st src <;> simpa [hsrc, Ne.symm hsrc] using hs

variable [Add α]

theorem parkEffect_parkEnt (fix : Bool) (st : St α) (e : Ent α) (h : WFst st) : ParkEffect st (parkEnt fix st e) e.src := by
  refine ⟨fun s => ?_, ?_, rfl⟩
  · simp only [parked, parkEnt, isSome_lookup_upsert, Bool.or_right_comm]
  · simp only [parkEnt, needLookup_eq h]
    cases parked st e.src <;> rfl

theorem parked_info (fix : Bool) (st : St α) (s : String) (r : Option Inst) (hw : WFst st) (s' : String) :
    parked (step fix st (.info s r)) s' = (parked st s' && !decide (s' = s)) := by
  rw [step_info fix st s r (hw.ne_nil s), deliver_eq]
  simp only [parked, lookup_erase]
  by_cases hs : s = s'
  · subst hs; simp
  · simp [hs, Ne.symm hs]

/-- `E`, `hinfo`: what the completion of a lookup needs of the environment — nothing for `≥`, for `=` that the lookup was in
flight (`EnvOK`). -/
theorem outInv_step {R : Nat → Nat → Prop} (hR : ∀ a b, R a b → R (a + 1) (b + 1)) (E : St α → String → Prop)
    (hinfo : ∀ (st : St α) s, E st s → R ((st.toLookup ++ st.inFlight).count s) (if parked st s then 1 else 0) →
      R ((st.toLookup ++ st.inFlight.erase s).count s) 0)
    (fix : Bool) (st : St α) (a : Action α) (henv : ∀ s r, a = .info s r → E st s) (hw : WFst st) (h : OutInv R st) :
    OutInv R (step fix st a) := by
  refine step_cases (OutInv R) E fix (fun st st' he hw h => ?_) st a henv hw h
  cases he with
  | count | emit | block | unblock => exact h
  | deliver ds => rw [deliver_eq]; exact h
  | parkEnt e => exact outInv_of_parkEffect hR (parkEffect_parkEnt fix st e hw) h
  | parkEvent e => exact outInv_of_parkEffect hR (parkEffect_parkEvent fix st e hw) h
  | send s rest heq =>
    intro s'
    have e : (rest ++ s :: st.inFlight).count s' = (st.toLookup ++ st.inFlight).count s' := by
      simp only [heq, List.count_append, List.count_cons]; omega
    exact e ▸ h s'
  | info s r hin =>
    intro s'
    rw [parked_info fix st s r hw, step_info fix st s r (hw.ne_nil s), deliver_eq]
    by_cases hs : s' = s
    · subst hs; simpa using hinfo st s' hin (h s')
    · simpa [hs, List.count_erase_of_ne hs] using h s'

theorem outInv_ge_step (fix : Bool) (st : St α) (a : Action α) (hw : WFst st) (h : OutInv (· ≥ ·) st) :
    OutInv (· ≥ ·) (step fix st a) :=
  outInv_step (R := (· ≥ ·)) (fun _ _ => Nat.succ_le_succ) (fun _ _ => True) (fun _ _ _ _ => Nat.zero_le _) fix st a
    (fun _ _ _ => trivial) hw h

theorem outInv_eq_step (fix : Bool) (st : St α) (a : Action α) (henv : EnvOK st a) (hw : WFst st) (h : OutInv (· = ·) st) :
    OutInv (· = ·) (step fix st a) := by
  refine outInv_step (fun _ _ => congrArg (· + 1)) (fun st s => s ∈ st.inFlight) (fun st s hin hc => ?_) fix st a
    (fun s r ha => by subst ha; exact henv) hw h
  have hpos : 0 < st.inFlight.count s := List.count_pos_iff.mpr hin
  simp only [List.count_append, List.count_erase_self] at hc ⊢
  split at hc <;> omega

end lookups

section gauges
variable {α : Type} [Add α]

def GaugeInv (st : St α) : Prop :=
  st.metricHosts = (hostsWithMetrics st : Int) ∧ st.eventHosts = (hostsWithEvents st : Int) ∧
  st.eventItems = ((parkedEvents st).length : Int)

theorem gaugeInv_step (st : St α) (a : Action α) (hw : WFst st) (h : GaugeInv st) : GaugeInv (step true st a) := by
  refine step_cases GaugeInv (fun _ _ => True) true (fun st st' he hw ⟨h1, h2, h3⟩ => ?_) st a (fun _ _ _ => trivial) hw h
  cases he with
  | count | send | emit | block | unblock => exact ⟨h1, h2, h3⟩
  | deliver ds => rw [deliver_eq]; exact ⟨h1, h2, h3⟩
  | parkEnt e =>
    refine ⟨?_, h2, h3⟩
    simp only [parkEnt, hostsWithMetrics, length_upsert, noMetrics_eq, Bool.or_true, Bool.and_true, h1]
    cases (lookup e.src st.awaitingMetrics).isSome <;> simp
  | parkEvent e =>
    refine ⟨h1, ?_, ?_⟩
    · simp only [parkEvent, hostsWithEvents, length_upsert, noEvents_eq hw, Bool.or_true, Bool.and_true, h2]
      cases (lookup e.src st.awaitingEvents).isSome <;> simp
    · simp only [parkEvent, parkedEvents, (flatMap_upsert_append e.src e st.awaitingEvents).length_eq, h3]
      simp
  | info s r =>
    rw [step_info true st s r (hw.ne_nil s), deliver_eq]
    have hM := length_erase s hw.ndM
    have hE := length_erase s hw.ndE
    have hP := (flatMap_erase_getD s hw.ndE).length_eq
    simp only [GaugeInv, hostsWithMetrics, hostsWithEvents, parkedEvents] at h1 h2 h3 ⊢
    refine ⟨?_, ?_, ?_⟩
    · rw [h1, ← hM]; split <;> simp
    · rw [h2, ← hE]; split <;> simp
    · rw [h3, hP, List.length_append, Int.natCast_add]; omega

end gauges

section content
variable {α : Type} [AddCommMonoid α]

theorem single_c (k : Key) (v : Counter) : (Ent.c k v : Ent α).single = { counters := [(k, v)] } := rfl
theorem single_g (k : Key) (v : Gauge α) : (Ent.g k v : Ent α).single = { gauges := [(k, v)] } := rfl
theorem single_s (k : Key) (v : SetV) : (Ent.s k v : Ent α).single = { sets := [(k, v)] } := rfl
theorem single_t (k : Key) (v : Timer α) : (Ent.t k v : Ent α).single = { timers := [(k, v)] } := rfl

theorem addTo_eq_merge (e : Ent α) (m : MM α) : e.addTo m = MM.merge m e.single := by
  -- both sides are `upsert k (fun o => match o with | none => v | some w => f w v) _`, with two different auxiliary matchers
  cases e <;> simp only [Ent.addTo, Ent.single, MM.merge, MM.empty, mergeWith, AList.upsert, List.foldl_cons, List.foldl_nil] <;>
    congr <;> funext o <;> cases o <;> rfl

theorem single_wf (e : Ent α) : e.single.WF := by
  cases e <;> simp [single_c, single_g, single_s, single_t, MMap.WF]

theorem ofEntries_eq_mergeMaps (es : List (Ent α)) : ofEntries es = MM.mergeMaps (es.map Ent.single) := by
  simp only [ofEntries, MM.mergeMaps, List.foldl_map, addTo_eq_merge]

theorem aggMM_ofEntries (es : List (Ent α)) : AggMM (ofEntries es) (es.map Ent.single) := by
  rw [ofEntries_eq_mergeMaps]
  refine aggMM_mergeMaps _ fun m hm => ?_
  obtain ⟨e, _, rfl⟩ := List.mem_map.1 hm
  exact single_wf e

theorem ofEntries_isEmpty (es : List (Ent α)) : (ofEntries es).isEmpty = es.isEmpty := isEmpty_ofEntries es

end content

section ledger
variable {α : Type}

def arrivedEvents (as : List (Action α)) : List Event :=
  as.filterMap (fun a => match a with | .arriveEvent e _ => some e | _ => none)

def arrivedEntries (as : List (Action α)) : List (Ent α) :=
  as.flatMap (fun a => match a with | .arriveMetrics b _ => entries b | _ => [])

def deliveredEvents (st : St α) : List Event :=
  (outbound st).filterMap (fun d => match d with | .event e => some e | _ => none)

def deliveredMaps (st : St α) : List (MM α) :=
  (outbound st).filterMap (fun d => match d with | .metrics m => some m | _ => none)

theorem arrivedEvents_append (as bs : List (Action α)) : arrivedEvents (as ++ bs) = arrivedEvents as ++ arrivedEvents bs :=
  List.filterMap_append
theorem arrivedEntries_append (as bs : List (Action α)) : arrivedEntries (as ++ bs) = arrivedEntries as ++ arrivedEntries bs :=
  List.flatMap_append

def JustE (as : List (Action α)) (p : Event × Option Inst) : Prop :=
  (∃ pk, Action.arriveEvent p.1 pk ∈ as ∧ cacheView pk p.1.src = some p.2) ∨ (Action.info p.1.src p.2 ∈ as)

theorem justE_mono (as : List (Action α)) (a : Action α) (p : Event × Option Inst) (h : JustE as p) : JustE (as ++ [a]) p := by
  rcases h with ⟨pk, h1, h2⟩ | h
  · exact Or.inl ⟨pk, List.mem_append_left _ h1, h2⟩
  · exact Or.inr (List.mem_append_left _ h)

section events
variable [Add α]

/-- events half of the ledger: `origE` = (original event, instance applied) of every delivered event, in order -/
def EvOK (origE : List (Event × Option Inst)) (as : List (Action α)) (st : St α) : Prop :=
  deliveredEvents st = origE.map (fun p => enrichEvent p.2 p.1) ∧
  (origE.map Prod.fst ++ parkedEvents st).Perm (arrivedEvents as) ∧ ∀ p ∈ origE, JustE as p

theorem EvOK.step (fix : Bool) {origE as} {st : St α} (hw : WFst st) (h : EvOK origE as st) (a : Action α)
    (ps : List (Event × Option Inst))
    (hds : (handedOver st a).filterMap (fun d => match d with | .event e => some e | _ => none) =
      ps.map (fun p => enrichEvent p.2 p.1))
    (hp : (ps.map Prod.fst ++ parkedEvents (Cloud.step fix st a)).Perm (parkedEvents st ++ arrivedEvents [a]))
    (hJ : ∀ p ∈ ps, JustE (as ++ [a]) p) : EvOK (origE ++ ps) (as ++ [a]) (Cloud.step fix st a) := by
  refine ⟨?_, ?_, fun p hp' => (List.mem_append.1 hp').elim (fun hp' => justE_mono as a p (h.2.2 p hp')) (hJ p)⟩
  · rw [deliveredEvents, outbound_step fix st a hw.heldOK (fun s _ _ => hw.ne_nil s), List.filterMap_append, List.map_append, ← h.1]
    -- not `rw [hds]`: the `match` written in `hds` and the one in `deliveredEvents` are different auxiliary matchers
    exact congrArg _ hds
  · rw [List.map_append, List.append_assoc, arrivedEvents_append]
    exact ((List.Perm.append_left _ hp).trans (List.Perm.of_eq (List.append_assoc ..).symm)).trans (h.2.1.append_right _)

theorem EvOK.frame (fix : Bool) {origE as} {st : St α} (hw : WFst st) (h : EvOK origE as st) (a : Action α)
    (hds : (handedOver st a).filterMap (fun d => match d with | .event e => some e | _ => none) = [])
    (hE : (Cloud.step fix st a).awaitingEvents = st.awaitingEvents) (hN : arrivedEvents [a] = []) :
    EvOK (origE ++ []) (as ++ [a]) (Cloud.step fix st a) :=
  h.step fix hw a [] hds (by simp [parkedEvents, hE, hN]) (by simp)

theorem evOK_step (fix : Bool) {origE as} {st : St α} (hw : WFst st) (h : EvOK origE as st) (a : Action α) :
    ∃ origE', EvOK origE' (as ++ [a]) (step fix st a) := by
  cases a with
  | arriveEvent e pk =>
    cases hc : cacheView pk e.src with
    | some i =>
      refine ⟨_, h.step fix hw _ [(e, i)] ?_ ?_ ?_⟩
      · simp only [handedOver, hc]; rfl
      · simp only [step, hc, deliver_eq, parkedEvents]
        exact (List.perm_append_singleton e _).symm
      · intro p hp
        rw [List.mem_singleton.1 hp]
        exact Or.inl ⟨pk, by simp, hc⟩
    | none =>
      refine ⟨_, h.step fix hw _ [] ?_ ?_ (by simp)⟩
      · simp only [handedOver, hc]; rfl
      · simp only [step, hc, parkEvent, parkedEvents]
        exact flatMap_upsert_append e.src e st.awaitingEvents
  | info s r =>
    refine ⟨_, h.step fix hw _ (((lookup s st.awaitingEvents).getD []).map (fun x => (x, r))) ?_ ?_ ?_⟩
    · simp only [handedOver]
      cases lookup s st.awaitingMetrics <;> simp [List.filterMap_map, Function.comp_def]
    · rw [step_info fix st s r (hw.ne_nil s), deliver_eq]
      simpa [parkedEvents, Function.comp_def, arrivedEvents] using (flatMap_erase_getD s hw.ndE).symm
    · intro p hp
      obtain ⟨x, hx, rfl⟩ := List.mem_map.1 hp
      cases hl : lookup s st.awaitingEvents with
      | none => simp [hl] at hx
      | some l => exact Or.inr (by simp [hw.srcE s l hl x (by simpa [hl] using hx)])
  | arriveMetrics b pk =>
    refine ⟨_, h.frame fix hw _ (by simp only [handedOver]; split <;> rfl) ?_ rfl⟩
    rw [step_arriveMetrics, foldl_parkEnt_proj (·.awaitingEvents) fix (fun _ _ => rfl), deliver_eq]
  | sendLookup => exact ⟨_, h.frame fix hw _ rfl (by simp only [step]; split <;> rfl) rfl⟩
  | emit | block | unblock => exact ⟨_, h.frame fix hw _ rfl rfl rfl⟩

end events

/-- ghost record of one delivered metric map: the arrived entries it accounts for, the instance applied per
source, and — for a release — the parked map that was re-keyed -/
structure MRec (α : Type) where
  ents : List (Ent α)
  f : String → Option Inst
  mid : Option (MM α)

def JustM (as : List (Action α)) (r : MRec α) : Prop :=
  (∃ b pk, Action.arriveMetrics b pk ∈ as ∧ r.f = instOf pk ∧ r.mid = none ∧
      r.ents = (entries b).filter (fun e => isHit pk e.src)) ∨
  (∃ s i, Action.info s i ∈ as ∧ r.f = (fun _ => i) ∧ r.mid.isSome = true ∧ ∀ e ∈ r.ents, e.src = s)

theorem justM_mono (as : List (Action α)) (a : Action α) (r : MRec α) (h : JustM as r) : JustM (as ++ [a]) r := by
  rcases h with ⟨b, pk, h1, h2⟩ | ⟨s, i, h1, h2⟩
  · exact Or.inl ⟨b, pk, List.mem_append_left _ h1, h2⟩
  · exact Or.inr ⟨s, i, List.mem_append_left _ h1, h2⟩

variable [AddCommMonoid α]

def MRec.out (r : MRec α) : MM α :=
  match r.mid with
  | none => rekeyEntries r.f r.ents
  | some m => rekeyEntries r.f (entries m)

def MRec.Sound (r : MRec α) : Prop :=
  match r.mid with
  | none => True
  | some m => AggMM m (r.ents.map Ent.single)

def Link (om : Option (MM α)) (oe : Option (List (Ent α))) (s : String) : Prop :=
  match om, oe with
  | none, none => True
  | some m, some es => AggMM m (es.map Ent.single) ∧ ∀ e ∈ es, e.src = s
  | _, _ => False

/-- `pend` = the arrived entries parked per source -/
def MLink (st : St α) (pend : AList String (List (Ent α))) : Prop :=
  st.awaitingMetrics = mapVals (fun _ => ofEntries) pend ∧ ∀ s es, lookup s pend = some es → ∀ e ∈ es, e.src = s

theorem MLink.nodup {st : St α} {pend} (h : MLink st pend) (hw : WFst st) : NodupKeys pend := by
  have := hw.ndM
  rwa [h.1, NodupKeys, keys_mapVals] at this

theorem MLink.link {st : St α} {pend} (h : MLink st pend) (s : String) :
    Link (lookup s st.awaitingMetrics) (lookup s pend) s := by
  rw [h.1, lookup_mapVals]
  cases hl : lookup s pend with
  | none => trivial
  | some es => exact ⟨aggMM_ofEntries es, h.2 s es hl⟩

theorem mlink_parkEnt (fix : Bool) (st : St α) (pend : AList String (List (Ent α))) (e : Ent α) (h : MLink st pend) :
    MLink (parkEnt fix st e) (AList.upsert e.src (fun o => o.getD [] ++ [e]) pend) := by
  refine ⟨?_, forall_lookup_push h.2 rfl⟩
  show AList.upsert e.src (fun o => e.addTo (o.getD MM.empty)) st.awaitingMetrics = _
  rw [h.1]
  exact (mapVals_upsert ofEntries _ _ _ (fun o => by cases o <;> simp [ofEntries]) pend).symm

theorem mlink_arriveMetrics (fix : Bool) (st : St α) (pend : AList String (List (Ent α))) (b : MM α) (pk : Peek)
    (h : MLink st pend) : ∃ pend', MLink (step fix st (.arriveMetrics b pk)) pend' ∧
      (pend'.flatMap (·.2)).Perm (pend.flatMap (·.2) ++ (entries b).filter (fun e => !isHit pk e.src)) := by
  have key : ∀ (es : List (Ent α)) (st0 : St α) pend, MLink st0 pend →
      ∃ pend', MLink (es.foldl (parkEnt fix) st0) pend' ∧ (pend'.flatMap (·.2)).Perm (pend.flatMap (·.2) ++ es) := by
    intro es
    induction es with
    | nil => exact fun _ pend h0 => ⟨pend, h0, by simp⟩
    | cons e t ih =>
      intro st0 pend h0
      obtain ⟨pend', h1, h2⟩ := ih _ _ (mlink_parkEnt fix st0 pend e h0)
      refine ⟨pend', h1, h2.trans ?_⟩
      simpa [List.append_assoc] using List.Perm.append_right t (flatMap_upsert_append e.src e pend)
  rw [step_arriveMetrics]
  exact key _ _ _ (by rw [deliver_eq]; exact h)

/-- metrics half of the ledger: `recs` = one record per delivered map, in order -/
def MetOK (pend : AList String (List (Ent α))) (recs : List (MRec α)) (as : List (Action α)) (st : St α) : Prop :=
  MLink st pend ∧ deliveredMaps st = recs.map MRec.out ∧ (∀ r ∈ recs, r.Sound ∧ JustM as r) ∧
  (recs.flatMap (·.ents) ++ pend.flatMap (·.2)).Perm (arrivedEntries as)

theorem MetOK.step (fix : Bool) {pend recs as} {st : St α} (hw : WFst st) (h : MetOK pend recs as st) (a : Action α)
    (rs : List (MRec α)) (pend' : AList String (List (Ent α))) (hl : MLink (Cloud.step fix st a) pend')
    (hds : (handedOver st a).filterMap (fun d => match d with | .metrics m => some m | _ => none) = rs.map MRec.out)
    (hr : ∀ r ∈ rs, r.Sound ∧ JustM (as ++ [a]) r)
    (hp : (rs.flatMap (·.ents) ++ pend'.flatMap (·.2)).Perm (pend.flatMap (·.2) ++ arrivedEntries [a])) :
    MetOK pend' (recs ++ rs) (as ++ [a]) (Cloud.step fix st a) := by
  refine ⟨hl, ?_, fun r hr' => (List.mem_append.1 hr').elim (fun hr' => (h.2.2.1 r hr').imp_right (justM_mono as a r)) (hr r), ?_⟩
  · rw [deliveredMaps, outbound_step fix st a hw.heldOK (fun s _ _ => hw.ne_nil s), List.filterMap_append, List.map_append, ← h.2.1]
    exact congrArg _ hds
  · rw [List.flatMap_append, List.append_assoc, arrivedEntries_append]
    exact ((List.Perm.append_left _ hp).trans (List.Perm.of_eq (List.append_assoc ..).symm)).trans (h.2.2.2.append_right _)

theorem MetOK.frame (fix : Bool) {pend recs as} {st : St α} (hw : WFst st) (h : MetOK pend recs as st) (a : Action α)
    (hds : (handedOver st a).filterMap (fun d => match d with | .metrics m => some m | _ => none) = [])
    (hM : (Cloud.step fix st a).awaitingMetrics = st.awaitingMetrics) (hN : arrivedEntries [a] = []) :
    MetOK pend (recs ++ []) (as ++ [a]) (Cloud.step fix st a) :=
  h.step fix hw a [] pend ⟨hM.trans h.1.1, h.1.2⟩ hds (by simp) (by simp [hN])

theorem metOK_step (fix : Bool) {pend recs as} {st : St α} (hw : WFst st) (h : MetOK pend recs as st) (a : Action α) :
    ∃ pend' recs', MetOK pend' recs' (as ++ [a]) (step fix st a) := by
  cases a with
  | arriveMetrics b pk =>
    obtain ⟨pend', hl', hperm⟩ := mlink_arriveMetrics fix st pend b pk h.1
    generalize hhits : (entries b).filter (fun e => isHit pk e.src) = hits
    have hpart : (hits ++ (entries b).filter (fun e => !isHit pk e.src)).Perm (entries b) :=
      hhits ▸ List.filter_append_perm _ _
    refine ⟨pend', _, h.step fix hw _ (if hits.isEmpty then [] else [⟨hits, instOf pk, none⟩]) pend' hl' ?_ ?_ ?_⟩
    · simp only [handedOver, hhits]; split <;> rfl
    · intro r hr
      split at hr
      · cases hr
      · rw [List.mem_singleton.1 hr]; exact ⟨trivial, Or.inl ⟨b, pk, by simp, rfl, rfl, hhits.symm⟩⟩
    · have : (if hits.isEmpty then ([] : List (MRec α)) else [⟨hits, instOf pk, none⟩]).flatMap (·.ents) = hits := by
        cases hits <;> simp
      rw [this, show arrivedEntries [Action.arriveMetrics b pk] = entries b from List.append_nil _]
      exact ((List.Perm.append_left _ hperm).trans (List.perm_append_comm_assoc ..)).trans (List.Perm.append_left _ hpart)
  | info s r =>
    have hM' : (step fix st (.info s r)).awaitingMetrics = AList.erase s st.awaitingMetrics := by
      rw [step_info fix st s r (hw.ne_nil s), deliver_eq]
    have hl' : MLink (step fix st (.info s r)) (AList.erase s pend) :=
      ⟨by rw [hM', h.1.1, mapVals_erase], fun s' es hl => h.1.2 s' es (lookup_of_erase hl)⟩
    refine ⟨_, _, h.step fix hw _ ((lookup s pend).map fun es => ⟨es, fun _ => r, some (ofEntries es)⟩).toList _ hl' ?_ ?_ ?_⟩
    · simp only [handedOver, h.1.1, lookup_mapVals]
      cases lookup s pend <;> simp [List.filterMap_map, MRec.out]
    · intro r' hr'
      obtain ⟨es, hes, rfl⟩ : ∃ es, lookup s pend = some es ∧ r' = ⟨es, fun _ => r, some (ofEntries es)⟩ := by
        cases hl : lookup s pend <;> simp_all
      exact ⟨aggMM_ofEntries es, Or.inr ⟨s, r, by simp, rfl, rfl, h.1.2 s es hes⟩⟩
    · have := (flatMap_erase_getD s (h.1.nodup hw)).symm
      cases hl : lookup s pend <;> simpa [hl, arrivedEntries] using this
  | arriveEvent e pk =>
    refine ⟨_, _, h.frame fix hw _ (by simp only [handedOver]; cases cacheView pk e.src <;> rfl) ?_ rfl⟩
    simp only [step]; split <;> simp only [deliver_eq, parkEvent]
  | sendLookup => exact ⟨_, _, h.frame fix hw _ rfl (by simp only [step]; split <;> rfl) rfl⟩
  | emit | block | unblock => exact ⟨_, _, h.frame fix hw _ rfl rfl rfl⟩

end ledger

/-- the model has `sort.Strings` twice; the facts about it are proved once, in the tag stage -/
theorem insertSorted_eq (a : String) (l : List String) : insertSorted a l = Tags.insertSorted a l := by
  induction l with
  | nil => rfl
  | cons b t ih => simp only [insertSorted, Tags.insertSorted, ih]

theorem sortTags_eq (l : List String) : sortTags l = Tags.sortTags l := by
  induction l with
  | nil => rfl
  | cons a t ih => rw [Tags.sortTags, ← ih, ← insertSorted_eq]; rfl

theorem sortTags_perm (l : List String) : (sortTags l).Perm l := sortTags_eq l ▸ Tags.sortTags_perm l

end Cloud
end Gsd

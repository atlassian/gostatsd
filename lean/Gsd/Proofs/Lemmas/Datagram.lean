import Gsd.Model.Datagram
import Gsd.Proofs.Lemmas.Lexer
import Gsd.Proofs.Lemmas.AList
/-!
Helper lemmas about the datagram model.  The functions of the array level work with indices into the buffer; each has
one lemma about a buffer written `A ++ W ++ P` (`A` before the cursor, `W` the bytes at issue, `P` the rest), and all
reasoning is done in that form.  The in-place rewriting of `lexKeySep` is a function of the line's own bytes (`keySepL`,
`keySepArr_eq`); that it leaves the rest of the buffer alone (`C05_frame`), what the lexer reads back after it
(`keySepL_name`), and that threading the buffer through the lines of a datagram gives what lexing each line alone gives
(`handleBuf_eq`) follow from that.
-/
namespace Gsd.Datagram
open Gsd.Lexer

theorem splitLinesAux_run (a tail : Bytes) (h : (10 : UInt8) ∉ a) : ∀ cur : Bytes,
    splitLinesAux cur (a ++ tail) = splitLinesAux (a.reverse ++ cur) tail := by
  induction a with
  | nil => intro cur; rfl
  | cons b t ih =>
    intro cur
    have hb : b ≠ 10 := (List.ne_of_not_mem_cons h).symm
    simp only [List.cons_append, splitLinesAux, hb, if_false, ih (List.not_mem_of_not_mem_cons h), List.reverse_cons,
      List.append_assoc, List.nil_append]

theorem splitLinesAux_no_nl (l : Bytes) (h : (10 : UInt8) ∉ l) (cur : Bytes) :
    splitLinesAux cur l = if cur.reverse ++ l = [] then [] else [cur.reverse ++ l] := by
  have := splitLinesAux_run l [] h cur
  rw [List.append_nil] at this
  simp [this, splitLinesAux, and_comm]

theorem splitLinesAux_append (a b : Bytes) (h : (10 : UInt8) ∉ a) (cur : Bytes) :
    splitLinesAux cur (a ++ 10 :: b) = (cur.reverse ++ a) :: splitLinesAux [] b := by
  simp [splitLinesAux_run a _ h, splitLinesAux]

theorem splitLinesAux_trailing (l : Bytes) : ∀ cur : Bytes, (cur ≠ [] ∨ l ≠ []) → l.getLast? ≠ some 10 →
    splitLinesAux cur (l ++ [10]) = splitLinesAux cur l := by
  induction l with
  | nil =>
    intro cur h _
    have hc : cur ≠ [] := by simpa using h
    simp [splitLinesAux, hc]
  | cons b t ih =>
    intro cur _ hl
    by_cases hb : b = 10
    · subst hb
      have ht : t ≠ [] := by intro e; subst e; simp at hl
      simp only [List.cons_append, splitLinesAux, if_true]
      rw [ih [] (Or.inr ht) (by rwa [List.getLast?_cons_of_ne_nil ht] at hl)]
    · simp only [List.cons_append, splitLinesAux, hb, if_false]
      refine ih (b :: cur) (Or.inl (by simp)) ?_
      cases t with
      | nil => simp
      | cons x r => rwa [List.getLast?_cons_of_ne_nil (by simp)] at hl

theorem splitLinesAux_total (msg : Bytes) : ∀ cur : Bytes,
    ((splitLinesAux cur msg).map (fun l => l.length + 1)).sum ≤ cur.length + msg.length + 1 := by
  induction msg with
  | nil => intro cur; simp only [splitLinesAux]; split <;> simp
  | cons b t ih =>
    intro cur
    simp only [splitLinesAux]
    split
    · have := ih []; simp at this ⊢; omega
    · have := ih (b :: cur); simp at this ⊢; omega

theorem mem_withCaps (bufCap n : Nat) (hn : n ≤ bufCap) (ls : List Bytes) :
    ∀ off, off + (ls.map (fun l => l.length + 1)).sum ≤ n + 1 →
      ∀ lc ∈ withCaps bufCap off ls, lc.1.length ≤ lc.2 ∧ lc.1.length ≤ n := by
  induction ls with
  | nil => intro off _ lc h; simp [withCaps] at h
  | cons l ls ih =>
    intro off hsum lc h
    simp only [List.map_cons, List.sum_cons] at hsum
    rcases List.mem_cons.1 h with rfl | h'
    · exact ⟨by simp only; omega, by simp only; omega⟩
    · exact ih (off + l.length + 1) (by omega) lc h'

theorem withCaps_fst (bufCap : Nat) (ls : List Bytes) : ∀ off, (withCaps bufCap off ls).map Prod.fst = ls := by
  induction ls with
  | nil => intro off; rfl
  | cons l ls ih => intro off; simp [withCaps, ih]

theorem count_items {F : Type} (items : List (Item F)) (hno : ∀ i ∈ items, i ≠ Item.panic) :
    panicked items = false ∧
    (metricsOf items).length + (eventsOf items).length + badCount items = items.length := by
  induction items with
  | nil => simp [panicked, metricsOf, eventsOf, badCount]
  | cons i rest ih =>
    obtain ⟨p1, p2⟩ := ih (fun j hj => hno j (List.mem_cons_of_mem _ hj))
    have hi := hno i (by simp)
    simp only [panicked, metricsOf, eventsOf, badCount] at p1 p2 ⊢
    cases i with
    | panic => exact absurd rfl hi
    | metric _ | event _ =>
      simp only [List.any_cons, List.filterMap_cons, List.filter_cons, List.length_cons, p1, Bool.false_eq_true, if_false]; exact ⟨rfl, by omega⟩
    | bad e => simp only [List.any_cons, List.filterMap_cons, List.filter_cons, List.length_cons, p1, if_true]; exact ⟨rfl, by omega⟩

/-- what `lexKeySep` makes, in place, of the bytes from the cursor to the end of the line: a deleted byte moves the rest
of the line one to the left, and the line's last byte stays behind as a stale copy -/
def keySepL : Bytes → Bytes
  | [] => []
  | b :: t =>
    if b = 58 ∨ b = 0 then b :: t
    else match normByte b with
      | some c => c :: keySepL t
      | none => keySepL t ++ [t.getLastD b]

theorem keySepL_length (W : Bytes) : (keySepL W).length = W.length := by
  induction W with
  | nil => rfl
  | cons b t ih =>
    simp only [keySepL]
    split
    · rfl
    · split <;> simp [ih]

theorem delAt_append (A : Bytes) (x : UInt8) (M B : Bytes) :
    delAt (A ++ x :: (M ++ B)) A.length (A.length + M.length + 1) = A ++ (M ++ (M.getLastD x :: B)) := by
  rw [delAt, Nat.add_sub_add_right, Nat.add_sub_cancel_left, Nat.add_sub_cancel, List.take_left, List.drop_length_add_append,
    List.drop_length_add_append, drop_length_cons_append, List.drop_succ_cons, List.drop_zero, List.take_left]

theorem keySepArr_eq (W : Bytes) : ∀ (A P : Bytes) (lo pos : Nat), lo + pos = A.length →
    keySepArr W.length (A ++ (W ++ P)) lo pos = A ++ (keySepL W ++ P) := by
  induction W with
  | nil => intro A P lo pos _; rfl
  | cons b t ih =>
    intro A P lo pos hA
    have hget : (A ++ b :: (t ++ P))[lo + pos]? = some b := by
      rw [hA, List.getElem?_append_right (Nat.le_refl _), Nat.sub_self]; rfl
    simp only [List.length_cons, List.cons_append, keySepArr, keySepL, hget, Option.getD_some]
    split
    · rfl
    cases normByte b with
    | some c =>
      have hset : (A ++ b :: (t ++ P)).set (lo + pos) c = (A ++ [c]) ++ (t ++ P) := by rw [hA]; simp
      dsimp only
      rw [hset, ih (A ++ [c]) P lo (pos + 1) (by rw [List.length_append, ← hA]; rfl), List.append_assoc]; rfl
    | none =>
      simp only [hA, delAt_append, ih A _ lo pos hA, List.append_assoc, List.cons_append, List.nil_append]

theorem lexWindowBuf_eq (A W P : Bytes) {b : UInt8} (hW : W.head? = some b) (h95 : b ≠ 95) (h0 : b ≠ 0) :
    lexWindowBuf (A ++ (W ++ P)) A.length (A.length + W.length) = A ++ (keySepL W ++ P) := by
  obtain ⟨t, rfl⟩ := List.head?_eq_some_iff.1 hW
  have hget : (A ++ (b :: t ++ P))[A.length]? = some b := by rw [List.getElem?_append_right (Nat.le_refl _), Nat.sub_self]; rfl
  have hlt : ¬ A.length + (b :: t).length ≤ A.length := by simp
  simp only [lexWindowBuf, hget, hlt, h95, h0, or_self, if_false, Nat.add_sub_cancel_left]
  exact keySepArr_eq (b :: t) A P A.length 0 rfl

theorem lexWindowBuf_append (A W P : Bytes) :
    ∃ Y : Bytes, Y.length = W.length ∧ lexWindowBuf (A ++ (W ++ P)) A.length (A.length + W.length) = A ++ (Y ++ P) := by
  cases W with
  | nil => exact ⟨[], rfl, by simp only [lexWindowBuf, List.length_nil, Nat.add_zero, Nat.le_refl, true_or, if_true]; split <;> rfl⟩
  | cons b t =>
    by_cases hb : b = 95 ∨ b = 0
    · refine ⟨b :: t, rfl, ?_⟩
      have hget : (A ++ (b :: t ++ P))[A.length]? = some b := by rw [List.getElem?_append_right (Nat.le_refl _), Nat.sub_self]; rfl
      simp only [lexWindowBuf, hget, hb, or_true, if_true]
    · exact ⟨keySepL (b :: t), keySepL_length _, lexWindowBuf_eq A (b :: t) P rfl (fun e => hb (.inl e)) (fun e => hb (.inr e))⟩

theorem keySepL_name (rest : Bytes) (nm : Bytes) (h0 : (0 : UInt8) ∉ nm) (h58 : (58 : UInt8) ∉ nm) :
    ∃ stale : Bytes, stale.length = nm.length - (norm nm).length ∧ keySepL (nm ++ 58 :: rest) = norm nm ++ 58 :: (rest ++ stale) := by
  induction nm with
  | nil => exact ⟨[], rfl, by simp [keySepL, norm]⟩
  | cons x t ih =>
    have hx : ¬ (x = 58 ∨ x = 0) := fun e => e.elim (fun e => h58 (by simp [e])) (fun e => h0 (by simp [e]))
    obtain ⟨stale, hl, e⟩ := ih (List.not_mem_of_not_mem_cons h0) (List.not_mem_of_not_mem_cons h58)
    have : (norm t).length ≤ t.length := List.length_filterMap_le _ _
    simp only [List.cons_append, keySepL, hx, if_false, norm_cons, e]
    cases normByte x with
    | some c => exact ⟨stale, by simp only [List.length_cons]; omega, rfl⟩
    | none => exact ⟨stale ++ [(t ++ 58 :: rest).getLastD x], by simp only [List.length_append, List.length_cons, List.length_nil]; omega, by simp⟩

theorem window_append (A W P : Bytes) : window (A ++ (W ++ P)) A.length (A.length + W.length) = W := by
  rw [window, List.drop_left, Nat.add_sub_cancel_left, List.take_left]

theorem window_all (buf : Bytes) : window buf 0 buf.length = buf := by
  simp [window]

theorem findNl_run (hi : Nat) (l Q : Bytes) (h : (10 : UInt8) ∉ l) : ∀ (A : Bytes) (fuel : Nat), A.length + l.length ≤ hi →
    findNl (A ++ (l ++ Q)) hi (fuel + l.length) A.length = findNl (A ++ (l ++ Q)) hi fuel (A.length + l.length) := by
  induction l with
  | nil => intro A fuel _; rfl
  | cons b t ih =>
    intro A fuel hA
    have hb : b ≠ 10 := (List.ne_of_not_mem_cons h).symm
    have hget : (A ++ (b :: t ++ Q))[A.length]? = some b := by rw [List.getElem?_append_right (Nat.le_refl _), Nat.sub_self]; rfl
    simp only [List.length_cons] at hA
    have := ih (List.not_mem_of_not_mem_cons h) (A ++ [b]) fuel (by rw [List.length_append, List.length_singleton]; omega)
    rw [List.length_append, List.length_singleton, List.append_assoc, List.singleton_append] at this
    rw [List.length_cons, ← Nat.add_assoc, findNl, if_neg (by omega), hget, if_neg (by simpa using hb), List.cons_append, this,
      Nat.add_assoc, Nat.add_comm 1]

/-- `A`: the buffer before the cursor (already lexed), `W`: the rest of the message, `P`: what follows the message in the
buffer -/
theorem handleBuf_eq {F : Type} [FloatLike F] (cfg : Cfg) (pf : Bytes → Option F) (c : Config) (bufCap : Nat) :
    ∀ (fuel : Nat) (A W P : Bytes) (hi : Nat), hi = A.length + W.length → W.length < fuel →
      (handleBuf cfg pf c bufCap hi fuel (A ++ (W ++ P)) A.length).1 =
        (withCaps bufCap A.length (splitLines W)).map (fun lc => lexAlone cfg pf c lc.1 lc.2) := by
  intro fuel
  induction fuel with
  | zero => intro _ W _ _ _ h; omega
  | succ f ih =>
    intro A W P hi hhi hf
    obtain ⟨l, tl, rfl, hl, htl⟩ := exists_split_first (fun b => b = 10) W
    have hl : (10 : UInt8) ∉ l := fun m => by simpa using hl 10 m
    rw [handleBuf, show hi - A.length = (l ++ tl).length by omega]
    rcases htl with rfl | ⟨x, W', rfl, hx⟩
    · rw [List.append_nil] at hhi ⊢
      have hfind : findNl (A ++ (l ++ P)) hi l.length A.length = none := by
        have := findNl_run hi l P hl A 0 (by omega)
        rwa [Nat.zero_add] at this
      rw [hfind, hhi, window_append, splitLines, splitLinesAux_no_nl l hl]
      cases l with
      | nil => simp [withCaps]
      | cons b t => simp [withCaps, show ¬ A.length + (t.length + 1) ≤ A.length by omega]
    · obtain rfl : x = 10 := by simpa using hx
      simp only [List.length_append, List.length_cons] at hhi hf
      have hfind : findNl (A ++ (l ++ 10 :: W' ++ P)) hi (l ++ 10 :: W').length A.length = some (A.length + l.length) := by
        have := findNl_run hi l (10 :: (W' ++ P)) hl A (W'.length + 1) (by omega)
        rw [List.append_assoc, List.cons_append, show (l ++ 10 :: W').length = W'.length + 1 + l.length by simp; omega, this, findNl,
          if_neg (by omega), if_pos (by
            rw [List.getElem?_append_right (Nat.le_add_right _ _), Nat.add_sub_cancel_left, List.getElem?_append_right (Nat.le_refl _),
              Nat.sub_self]; rfl)]
      rw [hfind]
      dsimp only
      -- the buffer after the first line is lexed: `Y` in place of `l`
      obtain ⟨Y, hY, e⟩ := lexWindowBuf_append A l (10 :: (W' ++ P))
      have hA : (A ++ (Y ++ [10])).length = A.length + l.length + 1 := by
        simp only [List.length_append, List.length_cons, List.length_nil, hY]; omega
      have hrec := ih (A ++ (Y ++ [10])) W' P hi (by omega) (by omega)
      rw [hA, show (A ++ (Y ++ [10])) ++ (W' ++ P) = A ++ (Y ++ 10 :: (W' ++ P)) by simp] at hrec
      rw [List.append_assoc, List.cons_append, e, window_append A l, hrec]
      simp only [splitLines, splitLinesAux_append l W' hl, withCaps, List.map_cons, List.reverse_nil, List.nil_append]

def lastFor {κ V : Type} [DecidableEq κ] (k : κ) : List (κ × Int × V) → Option V
  | [] => none
  | d :: t => match lastFor k t with
    | some v => some v
    | none => if d.1 = k then some d.2.2 else none

theorem gaugeFold_aux {κ V : Type} [DecidableEq κ] (now : Int) (k : κ) (dps : List (κ × Int × V)) :
    ∀ acc : AList κ (Int × V), (∀ k' ts v, AList.lookup k' acc = some (ts, v) → ts = now) → (∀ d ∈ dps, d.2.1 = now) →
      AList.lookup k (dps.foldl (fun mm d => receiveGauge true mm d.1 d.2.1 d.2.2) acc) =
        match lastFor k dps with
        | some v => some (now, v)
        | none => AList.lookup k acc := by
  induction dps with
  | nil => intro acc _ _; simp [lastFor]
  | cons d t ih =>
    intro acc hacc hts
    have hd : d.2.1 = now := hts d (by simp)
    have hstep : ∀ k', AList.lookup k' (receiveGauge true acc d.1 d.2.1 d.2.2) =
        if d.1 = k' then some (now, d.2.2) else AList.lookup k' acc := by
      intro k'
      unfold receiveGauge
      rw [AList.lookup_upsert]
      split
      · congr 1
        cases hl : AList.lookup d.1 acc with
        | none => simp [hd]
        | some p =>
          obtain ⟨ts0, v0⟩ := p
          have := hacc d.1 ts0 v0 hl
          simp [hd, this]
      · rfl
    have hacc' : ∀ k' ts v, AList.lookup k' (receiveGauge true acc d.1 d.2.1 d.2.2) = some (ts, v) → ts = now := by
      intro k' ts v h
      rw [hstep k'] at h
      split at h
      · simp only [Option.some.injEq, Prod.mk.injEq] at h; exact h.1.symm
      · exact hacc k' ts v h
    simp only [List.foldl_cons]
    rw [ih _ hacc' (fun d' h' => hts d' (List.mem_cons_of_mem _ h'))]
    simp only [lastFor]
    cases lastFor k t with
    | some v => rfl
    | none => simp only; rw [hstep k]; split <;> rfl

def isHostTag (t : Bytes) : Bool := hostPrefix.isPrefixOf t

theorem stripHost_none (tags : List Bytes) (h : ∀ t ∈ tags, isHostTag t = false) : stripHost tags = ([], tags) := by
  induction tags with
  | nil => rfl
  | cons t ts ih =>
    have ht : hostPrefix.isPrefixOf t = false := h t (by simp)
    simp only [stripHost, ht, Bool.false_eq_true, if_false]
    rw [ih (fun x hx => h x (List.mem_cons_of_mem _ hx))]

theorem stripHost_first (pre : List Bytes) (t : Bytes) (post : List Bytes) (hpre : ∀ x ∈ pre, isHostTag x = false)
    (ht : isHostTag t = true) : stripHost (pre ++ t :: post) = (t.drop 5, pre ++ post) := by
  induction pre with
  | nil => simp only [List.nil_append, stripHost]; simp [isHostTag] at ht; simp [ht]
  | cons x xs ih =>
    have hx : hostPrefix.isPrefixOf x = false := hpre x (by simp)
    simp only [List.cons_append, stripHost, hx, Bool.false_eq_true, if_false]
    rw [ih (fun y hy => hpre y (List.mem_cons_of_mem _ hy))]

end Gsd.Datagram

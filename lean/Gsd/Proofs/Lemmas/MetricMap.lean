import Gsd.Model.MetricMap
import Gsd.Proofs.Lemmas.AList
/-! Metric maps, one typed sub-map at a time (core-only): `mergeWith` pointwise (`optComb`), the relation `Agg` between a
sub-map and the list of sub-maps it stands for, the timestamp comparisons as `factgen` read them from the source
(`cmp_*`). -/
namespace Gsd
open AList

/-- combination of two optional entries: the shape of every `MergeX` -/
def optComb {ν} (f : ν → ν → ν) : Option ν → Option ν → Option ν
  | some x, some y => some (f x y)
  | some x, none => some x
  | none, some y => some y
  | none, none => none

theorem optComb_isSome {ν} (f : ν → ν → ν) (a b : Option ν) :
    (optComb f a b).isSome = (a.isSome || b.isSome) := by
  cases a <;> cases b <;> rfl

section mergeWith
variable {ν : Type}

theorem lookup_mergeWith (f : ν → ν → ν) (into frm : AList Key ν) (hn : NodupKeys frm) (k : Key) :
    lookup k (mergeWith f into frm) = optComb f (lookup k into) (lookup k frm) := by
  unfold mergeWith
  rw [look_foldl _ (lookup k) k (fun v o => some (match o with | none => v | some w => f w v)) _ hn]
  · cases lookup k frm <;> cases lookup k into <;> rfl
  · intro acc e
    rw [lookup_upsert]
    split
    · next h => subst h; cases lookup e.1 acc <;> rfl
    · rfl

theorem nodupKeys_mergeWith (f : ν → ν → ν) (into frm : AList Key ν) (h : NodupKeys into) :
    NodupKeys (mergeWith f into frm) :=
  List.foldlRecOn frm _ h fun _ h _ _ => nodupKeys_upsert _ _ h

theorem mergeWith_eq_nil (f : ν → ν → ν) (into es : AList Key ν) : mergeWith f into es = [] ↔ into = [] ∧ es = [] := by
  induction es generalizing into with
  | nil => simp [mergeWith]
  | cons e t ih =>
    unfold mergeWith at ih ⊢
    rw [List.foldl_cons, ih]
    simp [AList.upsert_ne_nil]

/-- `π`: what the combining function takes over from its first argument (a series' source and tags) -/
theorem mergeWith_origin {β : Type} (f : ν → ν → ν) (π : ν → β) (hπ : ∀ w x, π (f w x) = π w)
    (into : AList Key ν) (es : List (Key × ν)) (k : Key) (v : ν)
    (h : lookup k (mergeWith f into es) = some v) :
    (∃ w, lookup k into = some w ∧ π v = π w) ∨ (∃ e ∈ es, e.1 = k ∧ π v = π e.2) := by
  induction es generalizing into with
  | nil => exact .inl ⟨v, h, rfl⟩
  | cons e t ih =>
    rcases ih _ (h : lookup k (mergeWith f (AList.upsert e.1 _ into) t) = some v) with ⟨w, hw, hv⟩ | ⟨e', he', hk, hv⟩
    · rw [lookup_upsert] at hw
      split at hw
      · next hk =>
        cases hw
        subst hk
        cases hl : lookup e.1 into with
        | none => exact .inr ⟨e, List.mem_cons_self, rfl, by rw [hv, hl]⟩
        | some w0 => exact .inl ⟨w0, rfl, by rw [hv, hl]; exact hπ _ _⟩
      · exact .inl ⟨w, hw, hv⟩
    · exact .inr ⟨e', List.mem_cons_of_mem _ he', hk, hv⟩

end mergeWith

section wf
variable {α : Type}

theorem empty_wf : (MM.empty : MM α).WF := ⟨List.nodup_nil, List.nodup_nil, List.nodup_nil, List.nodup_nil⟩

variable [Add α]

theorem merge_wf (a b : MM α) (ha : a.WF) : (MM.merge a b).WF := by
  obtain ⟨h1, h2, h3, h4⟩ := ha
  exact ⟨nodupKeys_mergeWith _ _ _ h1, nodupKeys_mergeWith _ _ _ h2, nodupKeys_mergeWith _ _ _ h3, nodupKeys_mergeWith _ _ _ h4⟩

theorem receive_wf (ops : NumOps α) (m : MM α) (d : Dp α) (h : m.WF) : (MM.receive ops m d).WF := by
  obtain ⟨h1, h2, h3, h4⟩ := h
  unfold MM.receive
  cases d.ty
  · exact ⟨nodupKeys_upsert _ _ h1, h2, h3, h4⟩
  · exact ⟨h1, nodupKeys_upsert _ _ h2, h3, h4⟩
  · exact ⟨h1, h2, nodupKeys_upsert _ _ h3, h4⟩
  · exact ⟨h1, h2, h3, nodupKeys_upsert _ _ h4⟩

theorem receiveAll_wf (ops : NumOps α) (m : MM α) (ds : List (Dp α)) (h : m.WF) : (MM.receiveAll ops m ds).WF :=
  List.foldlRecOn ds _ h fun m hm d _ => receive_wf ops m d hm

end wf

section agg
variable {ν : Type}

def valsAt (k : Key) (ls : List (AList Key ν)) : List ν := ls.filterMap (lookup k)

theorem valsAt_append (k : Key) (xs ys : List (AList Key ν)) : valsAt k (xs ++ ys) = valsAt k xs ++ valsAt k ys := by
  simp [valsAt, List.filterMap_append]

theorem valsAt_single (k k' : Key) (s : ν) : valsAt k' [[(k, s)]] = if k = k' then [s] else [] := by
  by_cases h : k = k' <;> simp [valsAt, lookup_cons, h]

theorem valsAt_map_nil {β : Type} (k : Key) (l : List β) : valsAt k (l.map fun _ => ([] : AList Key ν)) = [] := by
  simp [valsAt]

/-- `Sum`: one relation per metric type -/
def Agg (Sum : ν → List ν → Prop) (m : AList Key ν) (ls : List (AList Key ν)) : Prop :=
  ∀ k, match lookup k m with
    | none => valsAt k ls = []
    | some v => Sum v (valsAt k ls)

theorem agg_leaf (Sum : ν → List ν → Prop) (base : ∀ v, Sum v [v]) (m : AList Key ν) : Agg Sum m [m] := by
  intro k
  cases h : lookup k m with
  | none => simp [valsAt, h]
  | some v => simpa [valsAt, h] using base v

theorem agg_nil (Sum : ν → List ν → Prop) : Agg Sum ([] : AList Key ν) [] := by
  intro k; simp [valsAt]

theorem agg_merge (Sum : ν → List ν → Prop) (f : ν → ν → ν)
    (step : ∀ x y xs ys, Sum x xs → Sum y ys → Sum (f x y) (xs ++ ys))
    (a b : AList Key ν) (xs ys : List (AList Key ν)) (ha : Agg Sum a xs) (hb : Agg Sum b ys) (hn : NodupKeys b) :
    Agg Sum (mergeWith f a b) (xs ++ ys) := by
  intro k
  rw [lookup_mergeWith f a b hn k, valsAt_append]
  have ha' := ha k
  have hb' := hb k
  cases hA : lookup k a <;> cases hB : lookup k b <;> simp only [hA, hB, optComb] at ha' hb' ⊢
  · simp [ha', hb']
  · simpa [ha'] using hb'
  · simpa [hb'] using ha'
  · exact step _ _ _ _ ha' hb'

theorem agg_upsert (Sum : ν → List ν → Prop) (F : Option ν → ν) (k : Key)
    (base : Sum (F none) [F none]) (step : ∀ x xs, Sum x xs → Sum (F (some x)) (xs ++ [F none]))
    (a : AList Key ν) (xs : List (AList Key ν)) (ha : Agg Sum a xs) :
    Agg Sum (AList.upsert k F a) (xs ++ [[(k, F none)]]) := by
  intro k'
  have ha' := ha k'
  rw [lookup_upsert, valsAt_append, valsAt_single]
  by_cases hk : k = k'
  · subst hk
    simp only [if_true]
    cases hA : lookup k a <;> simp only [hA] at ha' ⊢
    · rw [ha']; exact base
    · exact step _ _ ha'
  · simpa only [hk, if_false, List.append_nil] using ha'

theorem agg_append_empty {Sum : ν → List ν → Prop} {a : AList Key ν} {xs : List (AList Key ν)}
    (ha : Agg Sum a xs) : Agg Sum a (xs ++ [[]]) := fun k => by
  rw [valsAt_append, show valsAt k [[]] = [] from rfl, List.append_nil]
  exact ha k

theorem agg_mergeWith_dups (Sum : ν → List ν → Prop) (f : ν → ν → ν) (base : ∀ v, Sum v [v])
    (step : ∀ x y xs ys, Sum x xs → Sum y ys → Sum (f x y) (xs ++ ys))
    (into : AList Key ν) (xs : List (AList Key ν)) (es : List (Key × ν)) (h : Agg Sum into xs) :
    Agg Sum (mergeWith f into es) (xs ++ es.map (fun e => [e])) := by
  induction es generalizing into xs with
  | nil => simpa [mergeWith] using h
  | cons e t ih =>
    have := ih (mergeWith f into [e]) _ (agg_merge Sum f step into [e] xs [[e]] h (agg_leaf Sum base [e]) (by simp))
    rwa [List.append_assoc] at this

theorem agg_congr (Sum : ν → List ν → Prop) (a : AList Key ν) (xs ys : List (AList Key ν))
    (h : ∀ k, valsAt k xs = valsAt k ys) (ha : Agg Sum a xs) : Agg Sum a ys := by
  intro k
  have := ha k
  rw [h k] at this
  exact this

end agg

theorem cmp_MergeCounter (a b : Int) : relCmp Facts.rel_MergeCounter "<" a b = decide (a < b) := by
  simp [Facts.rel_MergeCounter, relCmp, cmpOp]
theorem cmp_MergeTimer (a b : Int) : relCmp Facts.rel_MergeTimer "<" a b = decide (a < b) := by
  simp [Facts.rel_MergeTimer, relCmp, cmpOp]
theorem cmp_MergeSet (a b : Int) : relCmp Facts.rel_MergeSet "<" a b = decide (a < b) := by
  simp [Facts.rel_MergeSet, relCmp, cmpOp]
/-- `MergeGauge` replaces the value when the incoming timestamp is newer; on equal timestamps either
choice satisfies C07, so both `<` and `<=` are accepted here. -/
theorem cmp_MergeGauge (a b : Int) :
    (relCmp Facts.rel_MergeGauge "<" a b = true → a ≤ b) ∧ (a < b → relCmp Facts.rel_MergeGauge "<" a b = true) := by
  simp [Facts.rel_MergeGauge, relCmp, cmpOp]; omega
theorem cmp_receiveCounter (a b : Int) : relCmp Facts.rel_receiveCounter ">" a b = decide (a > b) := by
  simp [Facts.rel_receiveCounter, relCmp, cmpOp]
theorem cmp_receiveTimer (a b : Int) : relCmp Facts.rel_receiveTimer ">" a b = decide (a > b) := by
  simp [Facts.rel_receiveTimer, relCmp, cmpOp]
theorem cmp_receiveSet (a b : Int) : relCmp Facts.rel_receiveSet ">" a b = decide (a > b) := by
  simp [Facts.rel_receiveSet, relCmp, cmpOp]
theorem cmp_receiveGauge (a b : Int) :
    (relCmp Facts.rel_receiveGauge ">=" a b = true → a ≥ b) ∧ (a > b → relCmp Facts.rel_receiveGauge ">=" a b = true) := by
  simp [Facts.rel_receiveGauge, relCmp, cmpOp]; omega

def IsMax (m : Int) (l : List Int) : Prop := m ∈ l ∧ ∀ x ∈ l, x ≤ m

theorem isMax_single (a : Int) : IsMax a [a] := by simp [IsMax]

theorem isMax_nil {a : Int} : ¬ IsMax a [] := fun h => by simp [IsMax] at h

theorem isMax_append_left {a b : Int} {xs ys : List Int} (ha : IsMax a xs) (hb : IsMax b ys) (h : b ≤ a) :
    IsMax a (xs ++ ys) :=
  ⟨List.mem_append_left _ ha.1, fun x hx => (List.mem_append.mp hx).elim (ha.2 x) fun hy => Int.le_trans (hb.2 x hy) h⟩

theorem isMax_append_right {a b : Int} {xs ys : List Int} (ha : IsMax a xs) (hb : IsMax b ys) (h : a ≤ b) :
    IsMax b (xs ++ ys) :=
  ⟨List.mem_append_right _ hb.1, fun x hx => (List.mem_append.mp hx).elim (fun hy => Int.le_trans (ha.2 x hy) h) (hb.2 x)⟩

theorem isMax_bumpTs {tok : String} (hc : ∀ a b, relCmp tok "<" a b = decide (a < b)) {a b : Int} {xs ys : List Int}
    (ha : IsMax a xs) (hb : IsMax b ys) : IsMax (bumpTs tok a b) (xs ++ ys) := by
  rw [bumpTs, hc]
  by_cases h : a < b
  · simpa only [h, decide_true, if_true] using isMax_append_right ha hb (Int.le_of_lt h)
  · simpa only [h, decide_false, Bool.false_eq_true, if_false] using isMax_append_left ha hb (Int.not_lt.mp h)

theorem isMax_perm_unique {a b : Int} {l l' : List Int} (ha : IsMax a l) (hb : IsMax b l') (hp : l.Perm l') : a = b :=
  Int.le_antisymm (hb.2 a (hp.mem_iff.mp ha.1)) (ha.2 b (hp.mem_iff.mpr hb.1))

theorem mem_setUnion (a b : List String) (x : String) : x ∈ setUnion a b ↔ x ∈ a ∨ x ∈ b := by
  rw [setUnion, mem_foldl_acc _ (fun v x => x = v)]
  · simp
  · intro d v y
    split
    · next hv => exact ⟨Or.inl, fun h => h.elim id (· ▸ hv)⟩
    · simp

theorem nodup_setUnion (a b : List String) (ha : a.Nodup) : (setUnion a b).Nodup :=
  List.foldlRecOn b _ ha fun d hd v _ => by
    split
    · exact hd
    · next hv =>
      exact List.nodup_append.2 ⟨hd, List.pairwise_singleton _ v, fun x hx y hy => by
        rw [List.mem_singleton.1 hy]; exact fun e => hv (e ▸ hx)⟩

theorem setUnion_of_nodup (a l : List String) (h : (a ++ l).Nodup) : setUnion a l = a ++ l := by
  induction l generalizing a with
  | nil => simp [setUnion]
  | cons v t ih =>
    have hv : v ∉ a := fun hmem => (List.nodup_append.mp h).2.2 v hmem v (by simp) rfl
    have e : setUnion a (v :: t) = setUnion (a ++ [v]) t := by simp [setUnion, hv]
    rw [e, ih (a ++ [v]) (by simpa [List.append_assoc] using h)]
    simp [List.append_assoc]

end Gsd

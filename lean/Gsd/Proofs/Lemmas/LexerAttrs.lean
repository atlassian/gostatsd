import Gsd.Proofs.Lemmas.Lexer
/-!
The attribute loops.  `lexMetricAttributes`/`lexMetricAttribute` and `lexEventAttributes`/`lexEventAttribute`
(`mattrs`, `eattrs` in the model) are the same loop over `seekUntil('|')`, `seekDelimited('|', ',')` and
`appendTag`; they differ in which first bytes open which kind of field and in what is done with a field's text.
`attrs` is that loop with the differences as a parameter and *without the cursor*.  The model's machines are `attrs`
with bounds checks, which all pass when the line lies inside its slice and the remembered start of the current field
inside the line (`mattrs_refines`, `eattrs_refines`: the only two places where the cursor is looked at).  Everything
else is proved about `attrs`, once.
-/
namespace Gsd.Lexer

def TagOk (t : Bytes) : Prop := t ≠ [] ∧ (44 : UInt8) ∉ t ∧ (124 : UInt8) ∉ t

theorem pushTag_ok {cur : Bytes} {tags : List Bytes} (h1 : (44 : UInt8) ∉ cur) (h2 : (124 : UInt8) ∉ cur)
    (ht : ∀ t ∈ tags, TagOk t) : ∀ t ∈ pushTag cur tags, TagOk t := by
  unfold pushTag
  split
  · exact ht
  · next hne =>
    intro t htm
    rcases List.mem_cons.1 htm with rfl | h
    · exact ⟨by simpa using hne, by simpa using h1, by simpa using h2⟩
    · exact ht t h

theorem filter_reverse_cons (t : Bytes) (ts X : List Bytes) :
    ((t :: ts).filter (· ≠ [])).reverse ++ X = (ts.filter (· ≠ [])).reverse ++ pushTag t.reverse X := by
  by_cases h : t = [] <;> simp [pushTag, h]

def SepTail (tail : Bytes) : Prop := tail = [] ∨ ∃ m, tail = 124 :: m

/-- for `renderFields` and `renderEFields`, which begin with `|` -/
theorem sepTail_flatMap {φ : Type} (render : φ → Bytes) (fs : List φ) (tail : Bytes) (h : SepTail tail) :
    SepTail (fs.flatMap (fun f => 124 :: render f) ++ tail) := by
  cases fs with
  | nil => exact h
  | cons f fs => exact .inr ⟨_, rfl⟩

/-- `MMode` and `EMode` without the cursor -/
inductive AMode
  | sep | start
  | colon (k : UInt8)
  | date (v : UInt64) (any : Bool)
  | data (k : UInt8) (cur : Bytes)
  | tag (cur : Bytes)
  | skip

/-- what the two attribute lexers differ in: the error of `lex…Attributes` on a stray byte; the first bytes after
which `:` is asserted (`d h k p s t` of events) and those followed at once by the text (`@` of metrics), both read up
to the next `|`; the handlers of such a text and of the `d:` number; `appendTag` -/
structure Attr (σ : Type) where
  sepErr : Err
  colonKey : UInt8 → Bool
  direct : UInt8 → Bool
  data : UInt8 → Bytes → σ → Res σ
  date : σ → UInt64 → Res σ
  push : Bytes → σ → σ

def attrs {σ : Type} (A : Attr σ) : AMode → σ → Bytes → Res σ
  | .sep, s, [] => .ok s
  | .start, s, [] => .ok s
  | .colon _, _, [] => .err .format
  | .date v any, s, [] => if any then A.date s v else .err .format
  | .data k cur, s, [] => A.data k cur s
  | .tag cur, s, [] => .ok (A.push cur s)
  | .skip, s, [] => .ok s
  | .sep, s, b :: t => if b = 124 then attrs A .start s t else if b = 0 then .ok s else .err A.sepErr
  | .start, s, b :: t =>
    if A.colonKey b then attrs A (.colon b) s t
    else if A.direct b then attrs A (.data b []) s t
    else if b = 35 then attrs A (.tag []) s t
    else attrs A .skip s t
  | .colon k, s, b :: t =>
    if b = 58 then (if k = 100 then attrs A (.date 0 false) s t else attrs A (.data k []) s t) else .err .format
  | .date v any, s, b :: t =>
    if isDigit b then
      let n := v * 10 + (b - 48).toUInt64
      if n < v then .err .overflow else attrs A (.date n true) s t
    else if b = 0 then (A.date s v).bind fun s' => attrs A .sep s' t
    else if any then (A.date s v).bind fun s' => if b = 124 then attrs A .start s' t else .err A.sepErr
    else .err .format
  | .data k cur, s, b :: t =>
    if b = 124 then (A.data k cur s).bind fun s' => attrs A .start s' t else attrs A (.data k (b :: cur)) s t
  | .tag cur, s, b :: t =>
    if b = 44 then attrs A (.tag []) (A.push cur s) t
    else if b = 124 then attrs A .start (A.push cur s) t
    else if b = 0 then attrs A .sep (A.push (0 :: cur) s) t
    else attrs A (.tag (b :: cur)) s t
  | .skip, s, b :: t => if b = 124 then attrs A .start s t else attrs A .skip s t

section generic
variable {σ : Type} (A : Attr σ)

def AMode.Clean : AMode → Prop
  | .tag cur => (44 : UInt8) ∉ cur ∧ (124 : UInt8) ∉ cur
  | _ => True

theorem attrs_inv (P : σ → Prop) (hdata : ∀ k cur s, P s → (A.data k cur s).Ensures P) (hdate : ∀ s v, P s → (A.date s v).Ensures P)
    (hpush : ∀ cur s, (44 : UInt8) ∉ cur → (124 : UInt8) ∉ cur → P s → P (A.push cur s)) (l : Bytes) :
    ∀ (mode : AMode) (s : σ), mode.Clean → P s → (attrs A mode s l).Ensures P := by
  induction l with
  | nil =>
    intro mode s hc hs
    cases mode with
    | date v any => exact .ite (fun _ => hdate _ _ hs) fun _ => trivial
    | data k cur => exact hdata _ _ _ hs
    | colon k => trivial
    | tag cur => exact hpush _ _ hc.1 hc.2 hs
    | _ => exact hs
  | cons b t ih =>
    intro mode s hc hs
    have clean : AMode.Clean (.tag []) := ⟨by simp, by simp⟩
    cases mode with
    | sep => exact .ite (fun _ => ih _ _ trivial hs) fun _ => .ite (fun _ => hs) fun _ => trivial
    | start =>
      exact .ite (fun _ => ih _ _ trivial hs) fun _ => .ite (fun _ => ih _ _ trivial hs) fun _ =>
        .ite (fun _ => ih _ _ clean hs) fun _ => ih _ _ trivial hs
    | colon k => exact .ite (fun _ => .ite (fun _ => ih _ _ trivial hs) fun _ => ih _ _ trivial hs) fun _ => trivial
    | date v any =>
      exact .ite (fun _ => .ite (fun _ => trivial) fun _ => ih _ _ trivial hs) fun _ =>
        .ite (fun _ => (hdate _ _ hs).bind fun _ hs' => ih _ _ trivial hs') fun _ =>
        .ite (fun _ => (hdate _ _ hs).bind fun _ hs' => .ite (fun _ => ih _ _ trivial hs') fun _ => trivial) fun _ => trivial
    | data k cur => exact .ite (fun _ => (hdata _ _ _ hs).bind fun _ hs' => ih _ _ trivial hs') fun _ => ih _ _ trivial hs
    | tag cur =>
      have hs' := hpush _ _ hc.1 hc.2 hs
      have h0 : P (A.push (0 :: cur) s) := hpush _ _ (by simp [hc.1]) (by simp [hc.2]) hs
      exact .ite (fun _ => ih _ _ clean hs') fun h1 => .ite (fun _ => ih _ _ trivial hs') fun h2 =>
        .ite (fun _ => ih _ _ trivial h0) fun _ =>
          ih _ _ ⟨by simp [hc.1, Ne.symm h1], by simp [hc.2, Ne.symm h2]⟩ hs
    | skip => exact .ite (fun _ => ih _ _ trivial hs) fun _ => ih _ _ trivial hs

theorem attrs_skip_run (t tail : Bytes) (h : (124 : UInt8) ∉ t) (hs : SepTail tail) (s : σ) :
    attrs A .skip s (t ++ tail) = attrs A .sep s tail := by
  induction t with
  | nil => rcases hs with rfl | ⟨m, rfl⟩ <;> simp [attrs]
  | cons b t ih =>
    have hb : b ≠ 124 := (List.ne_of_not_mem_cons h).symm
    simp only [List.cons_append, attrs, hb, if_false]
    exact ih (List.not_mem_of_not_mem_cons h)

theorem attrs_data_run (k : UInt8) (t tail : Bytes) (h : (124 : UInt8) ∉ t) (hs : SepTail tail) (s : σ) :
    ∀ cur, attrs A (.data k cur) s (t ++ tail) = (A.data k (t.reverse ++ cur) s).bind (fun s' => attrs A .sep s' tail) := by
  induction t with
  | nil => intro cur; rcases hs with rfl | ⟨m, rfl⟩ <;> simp [attrs, Res.bind_ok_right]
  | cons b t ih =>
    intro cur
    have hb : b ≠ 124 := (List.ne_of_not_mem_cons h).symm
    simp only [List.cons_append, attrs, hb, if_false, ih (List.not_mem_of_not_mem_cons h), List.reverse_cons, List.append_assoc,
      List.nil_append]

theorem attrs_tag_token (t X : Bytes) (h1 : (44 : UInt8) ∉ t) (h2 : (124 : UInt8) ∉ t) (h3 : (0 : UInt8) ∉ t) (s : σ) :
    ∀ cur, attrs A (.tag cur) s (t ++ X) = attrs A (.tag (t.reverse ++ cur)) s X := by
  induction t with
  | nil => intro cur; rfl
  | cons b t ih =>
    intro cur
    have hb1 : b ≠ 44 := (List.ne_of_not_mem_cons h1).symm
    have hb2 : b ≠ 124 := (List.ne_of_not_mem_cons h2).symm
    have hb3 : b ≠ 0 := (List.ne_of_not_mem_cons h3).symm
    simp only [List.cons_append, attrs, hb1, hb2, hb3, if_false, List.reverse_cons, List.append_assoc, List.nil_append,
      ih (List.not_mem_of_not_mem_cons h1) (List.not_mem_of_not_mem_cons h2) (List.not_mem_of_not_mem_cons h3)]

/-- `f` puts a tag list into the state, and `A.push` is `appendTag` there -/
theorem attrs_tags_run (f : List Bytes → σ) (hpush : ∀ cur X, A.push cur (f X) = f (pushTag cur X)) (tail : Bytes) (hs : SepTail tail)
    (ts : List Bytes) (hts : ∀ t ∈ ts, (44 : UInt8) ∉ t ∧ (124 : UInt8) ∉ t ∧ (0 : UInt8) ∉ t) (X : List Bytes) :
    attrs A (.tag []) (f X) (joinComma ts ++ tail) = attrs A .sep (f ((ts.filter (· ≠ [])).reverse ++ X)) tail := by
  -- after the first token every token is preceded by a `,`
  have tailRun : ∀ (ts : List Bytes), (∀ t ∈ ts, (44 : UInt8) ∉ t ∧ (124 : UInt8) ∉ t ∧ (0 : UInt8) ∉ t) → ∀ (cur : Bytes) (X : List Bytes),
      attrs A (.tag cur) (f X) (joinTail ts ++ tail) = attrs A .sep (f ((ts.filter (· ≠ [])).reverse ++ pushTag cur X)) tail := by
    intro ts
    induction ts with
    | nil => intro _ cur X; rcases hs with rfl | ⟨m, rfl⟩ <;> simp [attrs, joinTail, hpush]
    | cons t ts ih =>
      intro hts cur X
      have ht := hts t (by simp)
      rw [show joinTail (t :: ts) ++ tail = 44 :: (t ++ (joinTail ts ++ tail)) by simp [joinTail]]
      simp only [attrs, if_true, hpush, attrs_tag_token A t _ ht.1 ht.2.1 ht.2.2, ih (fun t' h' => hts t' (List.mem_cons_of_mem _ h')),
        List.append_nil, filter_reverse_cons]
  cases ts with
  | nil => exact tailRun [] hts [] X
  | cons t ts =>
    have ht := hts t (by simp)
    rw [show joinComma (t :: ts) ++ tail = t ++ (joinTail ts ++ tail) by simp [joinComma], attrs_tag_token A t _ ht.1 ht.2.1 ht.2.2,
      tailRun ts (fun t' h' => hts t' (List.mem_cons_of_mem _ h')), List.append_nil, filter_reverse_cons]

theorem attrs_date_eq (s : σ) (l : Bytes) : ∀ (v : UInt64) (any : Bool),
    attrs A (.date v any) s l = (uintLoop v any l).bind fun (x, r) => (A.date s x).bind fun s' => attrs A .sep s' r := by
  induction l with
  | nil => intro v any; cases any <;> simp [attrs, uintLoop, Res.bind_ok_right]
  | cons b t ih =>
    intro v any
    rw [attrs, uintLoop]
    by_cases hd : isDigit b = true
    · rw [if_pos hd, if_pos hd]
      by_cases hov : v * 10 + (b - 48).toUInt64 < v
      · rw [if_pos hov, if_pos hov]; rfl
      · rw [if_neg hov, if_neg hov]; exact ih _ _
    rw [if_neg hd, if_neg hd]
    by_cases h0 : b = 0
    · rw [if_pos h0, if_pos h0]; rfl
    rw [if_neg h0, if_neg h0]
    cases any with
    | true => simp only [if_true, Res.bind_ok, attrs, h0, if_false]
    | false => rfl

theorem attrs_date_run (ds tail : Bytes) (hd : AllDigits ds) (hs : SepTail tail) (s : σ) (hfit : digitsVal ds < 18446744073709551616) :
    attrs A (.date 0 false) s (ds ++ tail) = (A.date s (UInt64.ofNat (digitsVal ds))).bind (fun s' => attrs A .sep s' tail) := by
  have hn : NumTail tail := hs.imp id fun ⟨m, h⟩ => ⟨124, m, h, by decide⟩
  rw [attrs_date_eq, uintLoop_digits ds tail hd.2 hn 0 false hfit (Or.inr hd.1)]; rfl

end generic

section metric
variable {F : Type} [FloatLike F] (cfg : Cfg) (pf : Bytes → Option F)

theorem applyRate_rateOk (cur : Bytes) : (applyRate cfg pf cur).Ensures fun v => cfg.checkRate = true → FloatLike.rateOk v = true := by
  unfold applyRate
  split
  · trivial
  · next v _ =>
    refine .ite (fun _ => trivial) fun hc hcr => ?_
    cases hr : FloatLike.rateOk v with
    | true => rfl
    | false => exact absurd (by rw [hcr, hr]; rfl) hc

def mAttr : Attr (F × List Bytes) where
  sepErr := .type
  colonKey _ := false
  direct b := b = 64
  data _ cur s := (applyRate cfg pf cur).bind fun v => .ok (v, s.2)
  date s _ := .ok s
  push cur s := (s.1, pushTag cur s.2)

def MMode.erase : MMode → AMode
  | .sep => .sep | .start => .start | .rate _ cur => .data 64 cur | .tag _ cur => .tag cur | .skip _ => .skip

/-- the ghost invariant of a mode when `n` bytes remain: `l.start` was set inside the line, at or before the cursor -/
def MModeOk (g : Ghost) (n : Nat) : MMode → Prop
  | .sep => True
  | .start => True
  | .rate sl _ => n ≤ sl ∧ sl ≤ g.len.toNat
  | .tag sl _ => n ≤ sl ∧ sl ≤ g.len.toNat
  | .skip sl => n ≤ sl ∧ sl ≤ g.len.toNat

theorem MModeOk.mono {g : Ghost} {n : Nat} {mode : MMode} (h : MModeOk g (n + 1) mode) : MModeOk g n mode := by
  cases mode with
  | sep => trivial
  | start => trivial
  | _ => exact ⟨Nat.le_of_succ_le h.1, h.2⟩

theorem mattrs_refines (g : Ghost) (l : Bytes) : ∀ (mode : MMode) (r : F) (tags : List Bytes),
    (mattrs cfg pf g mode r tags l).Refines (g.len.toNat ≤ g.cap ∧ l.length ≤ g.len.toNat ∧ MModeOk g l.length mode)
      (attrs (mAttr cfg pf) mode.erase (r, tags) l) := by
  induction l with
  | nil =>
    intro mode r tags
    cases mode with
    | sep => exact .rfl
    | start => exact .guard (fun h => by rw [Bool.and_self]; exact sliceOk_at_len g h.1 (Nat.zero_le _)) .rfl
    | rate sl cur => exact .guard (fun h => sliceOk_at_len g h.1 h.2.2.2) .rfl
    | tag sl cur => exact .guard (fun h => sliceOk_at g h.1 (Nat.zero_le _) h.2.2.2) .rfl
    | skip sl => exact .guard (fun h => sliceOk_at_len g h.1 h.2.2.2) .rfl
  | cons b t ih =>
    intro mode r tags
    -- the recursive call in mode `m`, whose invariant follows from the present one
    have sub : ∀ {P : Prop} (m : MMode) (r : F) (tags : List Bytes), (t.length ≤ g.len.toNat → P → MModeOk g t.length m) →
        (mattrs cfg pf g m r tags t).Refines (g.len.toNat ≤ g.cap ∧ t.length + 1 ≤ g.len.toNat ∧ P)
          (attrs (mAttr cfg pf) m.erase (r, tags) t) :=
      fun m r tags hm => (ih m r tags).mono fun h => ⟨h.1, Nat.le_of_succ_le h.2.1, hm (Nat.le_of_succ_le h.2.1) h.2.2⟩
    -- the invariant of a mode entered at this byte, where `l.start` becomes the cursor (`P` only fits it to `sub`)
    have new : ∀ {P : Prop}, t.length ≤ g.len.toNat → P → t.length ≤ t.length ∧ t.length ≤ g.len.toNat :=
      fun ht _ => ⟨Nat.le_refl _, ht⟩
    cases mode with
    | sep => exact .ite (fun _ => sub .start r tags fun _ _ => trivial) fun _ => .rfl
    | start =>
      simp only [mattrs, MMode.erase, attrs, mAttr, Bool.false_eq_true, if_false, decide_eq_true_eq]
      refine .ite (fun hb => ?_) fun _ => .ite (fun _ => ?_) fun _ => ?_
      · subst hb; exact .guard (fun h => sliceOk_at_len g h.1 (Nat.le_of_succ_le h.2.1)) (sub (.rate t.length []) r tags new)
      · exact sub (.tag t.length []) r tags new
      · exact .guard (fun h => sliceOk_at_len g h.1 (Nat.le_of_succ_le h.2.1)) (sub (.skip t.length) r tags new)
    | rate sl cur =>
      simp only [mattrs, MMode.erase, attrs, mAttr, Res.bind_bind, Res.bind_ok]
      exact .ite (fun _ => .guard (fun h => sliceOk_at g h.1 h.2.2.1 h.2.2.2) (.bind fun v => sub .start v tags fun _ _ => trivial))
        fun _ => sub (.rate sl (b :: cur)) r tags fun _ => MModeOk.mono
    | tag sl cur =>
      refine .ite (fun _ => ?_) fun _ => .ite (fun _ => ?_) fun _ => .ite (fun _ => ?_) fun _ => ?_
      · exact .guard (fun h => by rw [g.at_sub_one h.2.1]; exact sliceOk_at g h.1 h.2.2.1 h.2.2.2) (sub (.tag t.length []) r _ new)
      · exact .guard (fun h => sliceOk_at g h.1 h.2.2.1 h.2.2.2) (sub .start r _ fun _ _ => trivial)
      · exact .guard (fun h => sliceOk_at g h.1 (Nat.le_of_succ_le h.2.2.1) h.2.2.2) (sub .sep r _ fun _ _ => trivial)
      · exact sub (.tag sl (b :: cur)) r tags fun _ => MModeOk.mono
    | skip sl =>
      exact .ite (fun _ => .guard (fun h => sliceOk_at g h.1 h.2.2.1 h.2.2.2) (sub .start r tags fun _ _ => trivial))
        fun _ => sub (.skip sl) r tags fun _ => MModeOk.mono

theorem mattrs_eq_attrs (g : Ghost) (hcap : g.len.toNat ≤ g.cap) (l : Bytes) (r : F) (tags : List Bytes) (hl : l.length ≤ g.len.toNat) :
    mattrs cfg pf g .sep r tags l = attrs (mAttr cfg pf) .sep (r, tags) l :=
  (mattrs_refines cfg pf g l .sep r tags).eq ⟨hcap, hl, trivial⟩

theorem mAttr_wf (l : Bytes) (r : F) (tags : List Bytes) (ht : ∀ t ∈ tags, TagOk t)
    (hr : cfg.checkRate = true → FloatLike.rateOk r = true) :
    (attrs (mAttr cfg pf) .sep (r, tags) l).Ensures fun s =>
      (∀ t ∈ s.2, TagOk t) ∧ (cfg.checkRate = true → FloatLike.rateOk s.1 = true) := by
  refine attrs_inv _ _ (fun _ cur s hs => ?_) (fun _ _ hs => hs) (fun _ _ c1 c2 hs => ⟨pushTag_ok c1 c2 hs.1, hs.2⟩) l .sep _ trivial ⟨ht, hr⟩
  exact (applyRate_rateOk cfg pf cur).bind fun v hv => ⟨hs.1, hv⟩

def Field.rateAfter (pf : Bytes → Option F) (r : F) : Field → F
  | .rate t => (pf t).getD r
  | _ => r

def Field.tagList : Field → List Bytes
  | .tags ts => ts.filter (· ≠ [])
  | _ => []

omit [FloatLike F] in
theorem specRate_cons (f : Field) (fs : List Field) (r : F) : specRate pf (f :: fs) r = specRate pf fs (f.rateAfter pf r) := rfl

theorem specTags_cons (f : Field) (fs : List Field) : specTags (f :: fs) = f.tagList ++ specTags fs := rfl

theorem mfield_run (f : Field) (hf : f.WF cfg pf) (tail : Bytes) (hs : SepTail tail) (r : F) (tags : List Bytes) :
    attrs (mAttr cfg pf) .start (r, tags) (f.render ++ tail) =
      attrs (mAttr cfg pf) .sep (f.rateAfter pf r, f.tagList.reverse ++ tags) tail := by
  cases f with
  | rate t =>
    obtain ⟨h124, v, hv, hok⟩ := hf
    have hr : applyRate cfg pf t.reverse = .ok v := by
      simp only [applyRate, List.reverse_reverse, hv]
      cases hc : cfg.checkRate <;> simp [hok, hc]
    rw [show (Field.rate t).render ++ tail = 64 :: (t ++ tail) from rfl]
    simp only [attrs, mAttr, decide_true, Bool.false_eq_true, if_false, if_true]
    rw [attrs_data_run _ 64 t tail h124 hs]
    simp only [List.append_nil, hr, Res.bind_ok, Field.rateAfter, Field.tagList, hv, Option.getD_some, List.reverse_nil, List.nil_append]
  | tags ts =>
    rw [show (Field.tags ts).render ++ tail = 35 :: (joinComma ts ++ tail) from rfl]
    exact attrs_tags_run _ (fun X => (r, X)) (fun _ _ => rfl) tail hs ts hf tags
  | other t =>
    obtain ⟨h124, b, r0, rfl, hb1, hb2⟩ := hf
    simp only [Field.render, List.cons_append, attrs, mAttr, hb1, hb2, decide_false, Bool.false_eq_true, if_false]
    rw [attrs_skip_run _ r0 tail (List.not_mem_of_not_mem_cons h124) hs]
    rfl

theorem mfields_run (fs : List Field) (hfs : ∀ f ∈ fs, f.WF cfg pf) (tail : Bytes) (hs : SepTail tail) :
    ∀ (r : F) (tags : List Bytes), attrs (mAttr cfg pf) .sep (r, tags) (renderFields fs ++ tail) =
      attrs (mAttr cfg pf) .sep (specRate pf fs r, (specTags fs).reverse ++ tags) tail := by
  induction fs with
  | nil => intro r tags; rfl
  | cons f fs ih =>
    intro r tags
    rw [show renderFields (f :: fs) ++ tail = 124 :: (f.render ++ (renderFields fs ++ tail)) by simp [renderFields]]
    simp only [attrs, if_true]
    rw [mfield_run cfg pf f (hfs f (by simp)) (renderFields fs ++ tail) (sepTail_flatMap Field.render fs tail hs), ih (fun f' h' => hfs f' (List.mem_cons_of_mem _ h')),
      specRate_cons, specTags_cons]
    simp

end metric

theorem setDate_tags (e : Event) (v : UInt64) : (setDate e v).Ensures fun e' => e'.tags = e.tags := by
  unfold setDate; exact .ite (fun _ => trivial) fun _ => rfl

theorem setDate_ok (e : Event) {v : UInt64} (h : v.toNat ≤ 9223372036854775807) : setDate e v = .ok { e with date := v } := by
  have : ¬ v > 0x7FFFFFFFFFFFFFFF := by
    simp only [gt_iff_lt, UInt64.lt_iff_toNat_lt, show (0x7FFFFFFFFFFFFFFF : UInt64).toNat = 9223372036854775807 from rfl]; omega
  simp [setDate, this]

theorem applyData_tags (k : UInt8) (cur : Bytes) (e : Event) : (applyData k cur e).Ensures fun e' => e'.tags = e.tags := by
  unfold applyData
  exact .ite (fun _ => rfl) fun _ => .ite (fun _ => rfl) fun _ =>
    .ite (fun _ => .ite (fun _ => rfl) fun _ => .ite (fun _ => rfl) fun _ => trivial) fun _ => .ite (fun _ => rfl) fun _ =>
    .ite (fun _ => rfl) fun _ => .ite (fun _ => rfl) fun _ => .ite (fun _ => rfl) fun _ => .ite (fun _ => rfl) fun _ => trivial

def eAttr : Attr Event where
  sepErr := .attributes
  colonKey b := b = 100 || isDataKey b
  direct _ := false
  data := applyData
  date := setDate
  push cur e := { e with tags := pushTag cur e.tags }

def EMode.erase : EMode → AMode
  | .sep => .sep | .start => .start | .colon k => .colon k | .date v any => .date v any
  | .data k _ cur => .data k cur | .tag _ cur => .tag cur | .skip _ => .skip

def EModeOk (g : Ghost) (n : Nat) : EMode → Prop
  | .data _ sl _ => n ≤ sl ∧ sl ≤ g.len.toNat
  | .tag sl _ => n ≤ sl ∧ sl ≤ g.len.toNat
  | .skip sl => n ≤ sl ∧ sl ≤ g.len.toNat
  | _ => True

theorem EModeOk.mono {g : Ghost} {n : Nat} {mode : EMode} (h : EModeOk g (n + 1) mode) : EModeOk g n mode := by
  cases mode with
  | data k sl cur => exact ⟨Nat.le_of_succ_le h.1, h.2⟩
  | tag sl cur => exact ⟨Nat.le_of_succ_le h.1, h.2⟩
  | skip sl => exact ⟨Nat.le_of_succ_le h.1, h.2⟩
  | _ => trivial

theorem eattrs_refines (g : Ghost) (l : Bytes) : ∀ (mode : EMode) (e : Event),
    (eattrs g mode e l).Refines (g.len.toNat ≤ g.cap ∧ l.length ≤ g.len.toNat ∧ EModeOk g l.length mode)
      (attrs eAttr mode.erase e l) := by
  induction l with
  | nil =>
    intro mode e
    cases mode with
    | start => exact .guard (fun h => by rw [Bool.and_self]; exact sliceOk_at_len g h.1 (Nat.zero_le _)) .rfl
    | data k sl cur => exact .guard (fun h => sliceOk_at_len g h.1 h.2.2.2) .rfl
    | tag sl cur => exact .guard (fun h => sliceOk_at g h.1 (Nat.zero_le _) h.2.2.2) .rfl
    | skip sl => exact .guard (fun h => sliceOk_at_len g h.1 h.2.2.2) .rfl
    | _ => exact .rfl
  | cons b t ih =>
    intro mode e
    have sub : ∀ {P : Prop} (m : EMode) (e : Event), (t.length ≤ g.len.toNat → P → EModeOk g t.length m) →
        (eattrs g m e t).Refines (g.len.toNat ≤ g.cap ∧ t.length + 1 ≤ g.len.toNat ∧ P) (attrs eAttr m.erase e t) :=
      fun m e hm => (ih m e).mono fun h => ⟨h.1, Nat.le_of_succ_le h.2.1, hm (Nat.le_of_succ_le h.2.1) h.2.2⟩
    have new : ∀ {P : Prop}, t.length ≤ g.len.toNat → P → t.length ≤ t.length ∧ t.length ≤ g.len.toNat :=
      fun ht _ => ⟨Nat.le_refl _, ht⟩
    cases mode with
    | sep => exact .ite (fun _ => sub .start e fun _ _ => trivial) fun _ => .rfl
    | start =>
      -- `eAttr.direct` is `false`: that branch of `attrs` reduces away
      exact .ite (fun _ => sub (.colon b) e fun _ _ => trivial) fun _ => .ite (fun _ => sub (.tag t.length []) e new) fun _ =>
        .guard (fun h => sliceOk_at_len g h.1 (Nat.le_of_succ_le h.2.1)) (sub (.skip t.length) e new)
    | colon k =>
      exact .ite (fun _ => .ite (fun _ => sub (.date 0 false) e fun _ _ => trivial) fun _ =>
        .guard (fun h => sliceOk_at_len g h.1 (Nat.le_of_succ_le h.2.1)) (sub (.data k t.length []) e new)) fun _ => .rfl
    | date v any =>
      exact .ite (fun _ => .ite (fun _ => .rfl) fun _ => sub (.date _ true) e fun _ _ => trivial) fun _ =>
        .ite (fun _ => .bind fun e' => sub .sep e' fun _ _ => trivial) fun _ =>
        .ite (fun _ => .bind fun e' => .ite (fun _ => sub .start e' fun _ _ => trivial) fun _ => .rfl) fun _ => .rfl
    | data k sl cur =>
      exact .ite (fun _ => .guard (fun h => sliceOk_at g h.1 h.2.2.1 h.2.2.2) (.bind fun e' => sub .start e' fun _ _ => trivial))
        fun _ => sub (.data k sl (b :: cur)) e fun _ => EModeOk.mono
    | tag sl cur =>
      refine .ite (fun _ => ?_) fun _ => .ite (fun _ => ?_) fun _ => .ite (fun _ => ?_) fun _ => ?_
      · exact .guard (fun h => by rw [g.at_sub_one h.2.1]; exact sliceOk_at g h.1 h.2.2.1 h.2.2.2) (sub (.tag t.length []) _ new)
      · exact .guard (fun h => sliceOk_at g h.1 h.2.2.1 h.2.2.2) (sub .start _ fun _ _ => trivial)
      · exact .guard (fun h => sliceOk_at g h.1 (Nat.le_of_succ_le h.2.2.1) h.2.2.2) (sub .sep _ fun _ _ => trivial)
      · exact sub (.tag sl (b :: cur)) e fun _ => EModeOk.mono
    | skip sl =>
      exact .ite (fun _ => .guard (fun h => sliceOk_at g h.1 h.2.2.1 h.2.2.2) (sub .start e fun _ _ => trivial))
        fun _ => sub (.skip sl) e fun _ => EModeOk.mono

theorem eattrs_eq_attrs (g : Ghost) (hcap : g.len.toNat ≤ g.cap) (l : Bytes) (e : Event) (hl : l.length ≤ g.len.toNat) :
    eattrs g .sep e l = attrs eAttr .sep e l :=
  (eattrs_refines g l .sep e).eq ⟨hcap, hl, trivial⟩

theorem eAttr_wf (l : Bytes) (e : Event) (ht : ∀ t ∈ e.tags, TagOk t) :
    (attrs eAttr .sep e l).Ensures fun e' => ∀ t ∈ e'.tags, TagOk t :=
  attrs_inv eAttr (fun e => ∀ t ∈ e.tags, TagOk t) (fun k cur e hs => (applyData_tags k cur e).imp fun _ h => h ▸ hs)
    (fun e v hs => (setDate_tags e v).imp fun _ h => h ▸ hs) (fun _ _ c1 c2 hs => pushTag_ok c1 c2 hs) l .sep e trivial ht

theorem efield_data_run (k : UInt8) (t tail : Bytes) (hk : isDataKey k = true) (h124 : (124 : UInt8) ∉ t) (hs : SepTail tail) (e : Event) :
    attrs eAttr .start e (k :: 58 :: t ++ tail) = (applyData k t.reverse e).bind (fun e' => attrs eAttr .sep e' tail) := by
  have hk100 : k ≠ 100 := by intro h; subst h; simp [isDataKey] at hk
  simp only [List.cons_append, attrs, eAttr, hk, Bool.or_true, if_true, hk100, if_false]
  rw [attrs_data_run _ k t tail h124 hs, List.append_nil]

theorem efield_run (f : EField) (hf : f.WF) (tail : Bytes) (hs : SepTail tail) (e : Event) :
    attrs eAttr .start e (f.render ++ tail) = attrs eAttr .sep (f.apply e) tail := by
  cases f with
  | date ds =>
    obtain ⟨hd, hmax⟩ := hf
    simp only [EField.render, List.cons_append, attrs, eAttr, decide_true, Bool.true_or, if_true]
    rw [attrs_date_run _ ds tail hd hs e (by omega)]
    dsimp only
    rw [setDate_ok e (by simp only [UInt64.toNat_ofNat']; omega)]; rfl
  | host t => rw [show (EField.host t).render = 104 :: 58 :: t from rfl, efield_data_run 104 t tail (by decide) hf hs]; simp [applyData, EField.apply]
  | aggKey t => rw [show (EField.aggKey t).render = 107 :: 58 :: t from rfl, efield_data_run 107 t tail (by decide) hf hs]; simp [applyData, EField.apply]
  | srcType t => rw [show (EField.srcType t).render = 115 :: 58 :: t from rfl, efield_data_run 115 t tail (by decide) hf hs]; simp [applyData, EField.apply]
  | prio p =>
    clear hf
    rw [show (EField.prio p).render = 112 :: 58 :: (match p with | .low => bLow | .normal => bNormal) from rfl,
      efield_data_run 112 _ tail (by decide) (by cases p <;> decide) hs]
    cases p <;> rfl
  | alert a =>
    rw [show (EField.alert a).render = 116 :: 58 :: alertBytes a from rfl, efield_data_run 116 _ tail (by decide) (by cases a <;> decide) hs]
    cases a <;> rfl
  | tags ts =>
    exact attrs_tags_run eAttr (fun X => { e with tags := X }) (fun _ _ => rfl) tail hs ts hf e.tags
  | other t =>
    obtain ⟨h124, b, r0, rfl, hb1, hb2, hb3, hb4, hb5, hb6, hb7⟩ := hf
    have hk : (decide (b = 100) || isDataKey b) = false := by simp [isDataKey, hb1, hb2, hb3, hb4, hb5, hb6]
    simp only [EField.render, List.cons_append, attrs, eAttr, hk, hb7, Bool.false_eq_true, if_false]
    rw [attrs_skip_run _ r0 tail (List.not_mem_of_not_mem_cons h124) hs]; rfl

theorem efields_run (fs : List EField) (hfs : ∀ f ∈ fs, f.WF) (tail : Bytes) (hs : SepTail tail) :
    ∀ e : Event, attrs eAttr .sep e (renderEFields fs ++ tail) = attrs eAttr .sep (fs.foldl EField.apply e) tail := by
  induction fs with
  | nil => intro e; rfl
  | cons f fs ih =>
    intro e
    rw [show renderEFields (f :: fs) ++ tail = 124 :: (f.render ++ (renderEFields fs ++ tail)) by simp [renderEFields]]
    simp only [attrs, if_true]
    rw [efield_run f (hfs f (by simp)) (renderEFields fs ++ tail) (sepTail_flatMap EField.render fs tail hs), ih (fun f' h' => hfs f' (List.mem_cons_of_mem _ h'))]; rfl

end Gsd.Lexer

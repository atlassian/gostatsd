import Gsd.Model.AList
import Gsd.Proofs.Lemmas.List
/-! Association lists (core-only).  A map is a list with `NodupKeys`; in a map `lookup` finds exactly the
entries (`lookup_eq_some_iff`), which turns statements about `lookup` of a filtered or mapped list into
statements about membership, and a fold over a map is decided key by key (`look_foldl`).  At the end tables of queues
(Go's `map[K][]V`, section `tables`) and `curry`: a map over pairs of keys as a two-level map, the shape of Go's
`map[K1]map[K2]V`. -/
namespace Gsd

namespace AList

section keys
variable {κ ν : Type}

@[simp] theorem keys_nil : keys ([] : AList κ ν) = [] := rfl
@[simp] theorem keys_cons (e : κ × ν) (t : AList κ ν) : keys (e :: t) = e.1 :: keys t := rfl
@[simp] theorem nodupKeys_nil : NodupKeys ([] : AList κ ν) := List.nodup_nil
@[simp] theorem nodupKeys_cons {e : κ × ν} {t : AList κ ν} :
    NodupKeys (e :: t) ↔ e.1 ∉ keys t ∧ NodupKeys t := List.nodup_cons

theorem keys_append (a b : AList κ ν) : keys (a ++ b) = keys a ++ keys b := List.map_append

theorem nodupKeys_filter (p : κ × ν → Bool) {m : AList κ ν} (h : NodupKeys m) : NodupKeys (m.filter p) :=
  List.Nodup.sublist (List.filter_sublist.map _) h

theorem keys_mapVals {μ : Type} (f : κ → ν → μ) (m : AList κ ν) : keys (mapVals f m) = keys m := by
  simp [keys, mapVals, List.map_map, Function.comp_def]

theorem nodupKeys_mapVals {μ : Type} (f : κ → ν → μ) {m : AList κ ν} (h : NodupKeys m) :
    NodupKeys (mapVals f m) := by
  unfold NodupKeys; rw [keys_mapVals]; exact h

theorem countP_mapVals (q : κ × ν → Bool) (f : κ → ν → ν) (m : AList κ ν)
    (h : ∀ k v, q (k, f k v) = q (k, v)) : (mapVals f m).countP q = m.countP q := by
  simp only [mapVals, List.countP_map]
  exact congrArg (List.countP · m) (funext fun e => h e.1 e.2)

theorem keys_filterMapVals_sublist {μ : Type} (f : κ → ν → Option μ) (m : AList κ ν) :
    (keys (filterMapVals f m)).Sublist (keys m) := by
  induction m with
  | nil => simp [filterMapVals]
  | cons e t ih =>
    simp only [filterMapVals]
    split
    · exact ih.cons_cons _
    · exact ih.cons _

theorem nodupKeys_filterMapVals {μ : Type} (f : κ → ν → Option μ) {m : AList κ ν} (h : NodupKeys m) :
    NodupKeys (filterMapVals f m) :=
  List.Nodup.sublist (keys_filterMapVals_sublist f m) h

end keys

variable {κ ν : Type} [DecidableEq κ]

@[simp] theorem lookup_nil (k : κ) : lookup k ([] : AList κ ν) = none := rfl

theorem lookup_cons (k k' : κ) (v : ν) (t : AList κ ν) :
    lookup k ((k', v) :: t) = if k' = k then some v else lookup k t := rfl

theorem lookup_eq_none_iff {k : κ} {m : AList κ ν} : lookup k m = none ↔ k ∉ keys m := by
  induction m with
  | nil => simp
  | cons e t ih =>
    obtain ⟨k', v⟩ := e
    by_cases h : k' = k
    · simp [lookup_cons, h]
    · simp [lookup_cons, h, ih, Ne.symm h]

theorem lookup_isSome_iff_mem_keys {k : κ} {m : AList κ ν} : (lookup k m).isSome ↔ k ∈ keys m := by
  rw [Option.isSome_iff_ne_none, Ne, lookup_eq_none_iff, Classical.not_not]

theorem mem_of_lookup_some {k : κ} {v : ν} {m : AList κ ν} (h : lookup k m = some v) : (k, v) ∈ m := by
  induction m with
  | nil => simp at h
  | cons e t ih =>
    obtain ⟨k', v'⟩ := e
    rw [lookup_cons] at h
    split at h
    · cases h; subst k'; exact List.mem_cons_self
    · exact List.mem_cons_of_mem _ (ih h)

theorem lookup_eq_some_iff {k : κ} {v : ν} {m : AList κ ν} (hn : NodupKeys m) :
    lookup k m = some v ↔ (k, v) ∈ m := by
  refine ⟨mem_of_lookup_some, fun h => ?_⟩
  induction m with
  | nil => simp at h
  | cons e t ih =>
    obtain ⟨k', v'⟩ := e
    rw [nodupKeys_cons] at hn
    rw [lookup_cons]
    rcases List.mem_cons.mp h with h | h
    · cases h; simp
    · have : k' ≠ k := fun e => hn.1 (e ▸ List.mem_map_of_mem (f := Prod.fst) h :)
      rw [if_neg this]; exact ih hn.2 h

theorem look_foldl {β μ : Type} (g : β → κ × ν → β) (look : β → μ) (k : κ) (upd : ν → μ → μ)
    (hg : ∀ acc e, look (g acc e) = if e.1 = k then upd e.2 (look acc) else look acc)
    {m : AList κ ν} (hm : NodupKeys m) (acc : β) :
    look (m.foldl g acc) = match lookup k m with | some v => upd v (look acc) | none => look acc := by
  induction m generalizing acc with
  | nil => rfl
  | cons e t ih =>
    obtain ⟨k₀, v₀⟩ := e
    rw [nodupKeys_cons] at hm
    rw [List.foldl_cons, ih hm.2, hg, lookup_cons]
    by_cases hk : k₀ = k
    · subst hk; simp [lookup_eq_none_iff.mpr hm.1]
    · simp [hk]

theorem count_keys {k : κ} {m : AList κ ν} (hn : NodupKeys m) :
    (keys m).count k = if (lookup k m).isSome then 1 else 0 := by
  rw [List.Nodup.count hn]; simp only [lookup_isSome_iff_mem_keys]

theorem lookup_append (k : κ) (a b : AList κ ν) : lookup k (a ++ b) = (lookup k a).or (lookup k b) := by
  induction a with
  | nil => simp
  | cons e t ih =>
    obtain ⟨k', v⟩ := e
    simp only [List.cons_append, lookup_cons, ih]
    split <;> simp

theorem lookup_upsert (k k' : κ) (f : Option ν → ν) (m : AList κ ν) :
    lookup k' (upsert k f m) = if k = k' then some (f (lookup k m)) else lookup k' m := by
  induction m with
  | nil => simp [upsert, lookup_cons]
  | cons e t ih =>
    obtain ⟨k₀, v₀⟩ := e
    by_cases h0 : k₀ = k
    · subst h0; by_cases h : k₀ = k' <;> simp [upsert, lookup_cons, h]
    · by_cases h : k₀ = k'
      · subst h; simp [upsert, lookup_cons, h0, Ne.symm h0]
      · simp [upsert, lookup_cons, h0, h, ih]

theorem isSome_lookup_upsert (k s : κ) (f : Option ν → ν) (m : AList κ ν) :
    (lookup s (upsert k f m)).isSome = ((lookup s m).isSome || decide (s = k)) := by
  rw [lookup_upsert]
  by_cases h : k = s
  · simp [h]
  · simp [h, Ne.symm h]

theorem forall_lookup_upsert {Q : κ → ν → Prop} {k : κ} {f : Option ν → ν} {m : AList κ ν}
    (hm : ∀ s v, lookup s m = some v → Q s v) (hf : Q k (f (lookup k m))) :
    ∀ s v, lookup s (upsert k f m) = some v → Q s v := by
  intro s v h
  rw [lookup_upsert] at h
  split at h
  · next hk => cases h; exact hk ▸ hf
  · exact hm s v h

theorem lookup_foldl_upsert_const (c : ν) (ks : List κ) (m : AList κ ν) (k : κ) :
    lookup k (ks.foldl (fun m k' => upsert k' (fun _ => c) m) m) = if k ∈ ks then some c else lookup k m := by
  induction ks generalizing m with
  | nil => simp
  | cons k' ks ih =>
    rw [List.foldl_cons, ih, lookup_upsert]
    by_cases h1 : k ∈ ks <;> by_cases h2 : k' = k <;> simp [h1, h2, Ne.symm (a := k') (b := k)]

theorem mem_keys_upsert (k : κ) (f : Option ν → ν) (m : AList κ ν) (x : κ) :
    x ∈ keys (upsert k f m) ↔ x = k ∨ x ∈ keys m := by
  simp only [← lookup_isSome_iff_mem_keys, isSome_lookup_upsert, Bool.or_eq_true, decide_eq_true_eq, or_comm]

theorem nodupKeys_upsert (k : κ) (f : Option ν → ν) {m : AList κ ν} (h : NodupKeys m) :
    NodupKeys (upsert k f m) := by
  induction m with
  | nil => simp [upsert]
  | cons e t ih =>
    obtain ⟨k₀, v₀⟩ := e
    rw [nodupKeys_cons] at h
    by_cases h0 : k₀ = k
    · simpa [upsert, h0] using h
    · simp [upsert, h0, mem_keys_upsert, ih h.2, h.1]

theorem upsert_ne_nil (k : κ) (f : Option ν → ν) (m : AList κ ν) : upsert k f m ≠ [] := by
  cases m with
  | nil => simp [upsert]
  | cons e t => simp only [upsert]; split <;> simp

theorem length_upsert (k : κ) (f : Option ν → ν) (m : AList κ ν) :
    (upsert k f m).length = if (lookup k m).isSome then m.length else m.length + 1 := by
  induction m with
  | nil => simp [upsert]
  | cons e t ih =>
    obtain ⟨k₀, v₀⟩ := e
    by_cases h : k₀ = k
    · simp [upsert, lookup, h]
    · simp only [upsert, lookup, h, if_false, List.length_cons, ih]
      split <;> simp

theorem forall_upsert {P : ν → Prop} (k : κ) (f : Option ν → ν) (m : AList κ ν)
    (hm : ∀ e ∈ m, P e.2) (hf : ∀ o, (∀ v, o = some v → P v) → P (f o)) : ∀ e ∈ upsert k f m, P e.2 := by
  induction m with
  | nil => simpa [upsert] using hf none nofun
  | cons x xs ih =>
    obtain ⟨k', v'⟩ := x
    rw [List.forall_mem_cons] at hm
    simp only [upsert]
    split
    · exact List.forall_mem_cons.mpr ⟨hf (some v') fun v hv => Option.some.inj hv ▸ hm.1, hm.2⟩
    · exact List.forall_mem_cons.mpr ⟨hm.1, ih hm.2⟩

/-- additions on both sides: counts are in `Nat` -/
theorem countP_upsert (q : κ × ν → Bool) (k : κ) (f : Option ν → ν) (m : AList κ ν) :
    (upsert k f m).countP q + (lookup k m).elim 0 (fun v => if q (k, v) then 1 else 0) =
      m.countP q + if q (k, f (lookup k m)) then 1 else 0 := by
  induction m with
  | nil => by_cases h : q (k, f none) = true <;> simp [upsert, h]
  | cons e t ih =>
    obtain ⟨k', v⟩ := e
    by_cases hk : k' = k
    · subst hk; simp only [upsert, lookup_cons, if_true, List.countP_cons, Option.elim_some]; omega
    · simp only [upsert, lookup_cons, hk, if_false, List.countP_cons]; omega

theorem lookup_filter (p : κ × ν → Bool) (k : κ) {m : AList κ ν} (hn : NodupKeys m) :
    lookup k (m.filter p) = (lookup k m).filter (fun v => p (k, v)) := by
  ext v
  simp [lookup_eq_some_iff, hn, nodupKeys_filter, Option.filter_eq_some_iff]

theorem lookup_filterKeys (p : κ → Bool) (k : κ) (m : AList κ ν) :
    lookup k (filterKeys p m) = if p k then lookup k m else none := by
  induction m with
  | nil => simp [filterKeys]
  | cons e t ih =>
    obtain ⟨k₀, v₀⟩ := e
    simp only [filterKeys] at ih
    by_cases hk : k₀ = k
    · subst hk; by_cases hp : p k₀ = true <;> simp [filterKeys, hp, lookup_cons, ih]
    · by_cases hp : p k₀ = true <;> simp [filterKeys, hp, lookup_cons, hk, ih]

set_option linter.unusedSectionVars false in
theorem nodupKeys_filterKeys (p : κ → Bool) {m : AList κ ν} (h : NodupKeys m) :
    NodupKeys (filterKeys p m) := nodupKeys_filter _ h

theorem erase_eq_filter (k : κ) (m : AList κ ν) : erase k m = m.filter (fun e => e.1 ≠ k) := by
  induction m with
  | nil => rfl
  | cons e t ih => by_cases h : e.1 = k <;> simp [erase, h, ih]

theorem lookup_erase (k k' : κ) (m : AList κ ν) :
    lookup k' (erase k m) = if k = k' then none else lookup k' m := by
  rw [erase_eq_filter]
  refine (lookup_filterKeys (fun x => decide (x ≠ k)) k' m).trans ?_
  by_cases h : k = k' <;> simp [h, eq_comm]

theorem lookup_of_erase {k s : κ} {v : ν} {m : AList κ ν} (h : lookup s (erase k m) = some v) : lookup s m = some v := by
  rw [lookup_erase] at h
  split at h
  · cases h
  · exact h

theorem keys_erase_sublist (k : κ) (m : AList κ ν) : (keys (erase k m)).Sublist (keys m) :=
  erase_eq_filter k m ▸ List.filter_sublist.map _

theorem nodupKeys_erase (k : κ) {m : AList κ ν} (h : NodupKeys m) : NodupKeys (erase k m) :=
  List.Nodup.sublist (keys_erase_sublist k m) h

theorem erase_of_lookup_none {k : κ} {m : AList κ ν} (h : lookup k m = none) : erase k m = m := by
  rw [erase_eq_filter, List.filter_eq_self]
  intro e he
  simpa using fun h' : e.1 = k => lookup_eq_none_iff.mp h (h' ▸ List.mem_map_of_mem he)

theorem perm_cons_erase {k : κ} {v : ν} {m : AList κ ν} (hn : NodupKeys m) (h : lookup k m = some v) :
    m.Perm ((k, v) :: erase k m) := by
  induction m with
  | nil => cases h
  | cons e t ih =>
    rw [nodupKeys_cons] at hn
    rw [lookup_cons] at h
    split at h
    · next hk => cases h; subst hk; rw [erase, if_pos rfl, erase_of_lookup_none (lookup_eq_none_iff.mpr hn.1)]
    · next hk => rw [erase, if_neg hk]; exact ((ih hn.2 h).cons _).trans (.swap ..)

theorem length_erase (k : κ) {m : AList κ ν} (hn : NodupKeys m) :
    (erase k m).length + (if (lookup k m).isSome then 1 else 0) = m.length := by
  cases h : lookup k m with
  | none => simp [erase_of_lookup_none h]
  | some v => simpa using (perm_cons_erase hn h).length_eq.symm

theorem lookup_mapVals {μ : Type} (f : κ → ν → μ) (k : κ) (m : AList κ ν) :
    lookup k (mapVals f m) = (lookup k m).map (f k) := by
  induction m with
  | nil => rfl
  | cons e t ih =>
    obtain ⟨k₀, v₀⟩ := e
    simp only [mapVals] at ih
    by_cases hk : k₀ = k
    · subst hk; simp [mapVals, lookup_cons]
    · simp [mapVals, lookup_cons, hk, ih]

theorem mapVals_upsert {μ : Type} (g : ν → μ) (k : κ) (f : Option ν → ν) (f' : Option μ → μ)
    (hf : ∀ o, g (f o) = f' (o.map g)) (m : AList κ ν) :
    mapVals (fun _ => g) (upsert k f m) = upsert k f' (mapVals (fun _ => g) m) := by
  induction m with
  | nil => simp [upsert, mapVals, hf]
  | cons e t ih =>
    simp only [mapVals] at ih
    simp only [upsert, mapVals, List.map_cons]
    split
    · simp [hf]
    · simp [ih]

theorem mapVals_erase {μ : Type} (g : κ → ν → μ) (k : κ) (m : AList κ ν) : mapVals g (erase k m) = erase k (mapVals g m) := by
  induction m with
  | nil => rfl
  | cons e t ih =>
    simp only [mapVals] at ih
    simp only [erase, mapVals, List.map_cons]
    split <;> simp [ih]

theorem lookup_map_mk (f : κ → ν) (l : List κ) (K : κ) :
    lookup K (l.map (fun K => (K, f K))) = if K ∈ l then some (f K) else none := by
  induction l with
  | nil => simp
  | cons x t ih =>
    simp only [List.map_cons, lookup_cons, ih, List.mem_cons]
    by_cases h : x = K
    · subst h; simp
    · have : ¬ K = x := fun e => h e.symm
      simp [h, this]

theorem lookup_map_tag {κ' β γ : Type} [DecidableEq κ'] (φ : κ → κ') (g : β → γ) (m : AList κ β)
    (K : κ') (k : κ) :
    lookup (K, k) (m.map fun e => ((φ e.1, e.1), g e.2)) = if φ k = K then (lookup k m).map g else none := by
  induction m with
  | nil => simp
  | cons e t ih =>
    obtain ⟨k0, v0⟩ := e
    simp only [List.map_cons, lookup_cons, ih, Prod.mk.injEq]
    by_cases h : k0 = k
    · subst h; by_cases h2 : φ k0 = K <;> simp [h2]
    · simp [h]

theorem lookup_filterMapVals {μ : Type} (f : κ → ν → Option μ) (k : κ) {m : AList κ ν}
    (h : NodupKeys m) : lookup k (filterMapVals f m) = (lookup k m).bind (f k) := by
  induction m with
  | nil => rfl
  | cons e t ih =>
    obtain ⟨k₀, v₀⟩ := e
    rw [nodupKeys_cons] at h
    have iht := ih h.2
    by_cases hk : k₀ = k
    · subst hk
      cases hf : f k₀ v₀ <;> simp [filterMapVals, lookup_cons, hf, iht, lookup_eq_none_iff.mpr h.1]
    · cases hf : f k₀ v₀ <;> simp [filterMapVals, lookup_cons, hf, hk, iht]

section tables
variable {β : Type}

theorem forall_lookup_push {P : κ → β → Prop} {k : κ} {x : β} {m : AList κ (List β)}
    (hm : ∀ s l, lookup s m = some l → ∀ y ∈ l, P s y) (hx : P k x) :
    ∀ s l, lookup s (upsert k (fun o => o.getD [] ++ [x]) m) = some l → ∀ y ∈ l, P s y :=
  forall_lookup_upsert hm fun y hy => by
    rcases List.mem_append.1 hy with hy | hy
    · cases hq : lookup k m with
      | none => simp [hq] at hy
      | some l => exact hm k l hq y (by simpa [hq] using hy)
    · exact List.mem_singleton.1 hy ▸ hx

theorem flatMap_upsert_append (k : κ) (x : β) (m : AList κ (List β)) :
    ((upsert k (fun o => o.getD [] ++ [x]) m).flatMap (·.2)).Perm (m.flatMap (·.2) ++ [x]) := by
  induction m with
  | nil => simp [upsert]
  | cons e t ih =>
    obtain ⟨k₀, v₀⟩ := e
    by_cases h : k₀ = k
    · simp only [upsert, h, if_true, List.flatMap_cons, Option.getD_some, List.append_assoc]
      exact List.Perm.append_left _ List.perm_append_comm
    · simp only [upsert, h, if_false, List.flatMap_cons, List.append_assoc]
      exact List.Perm.append_left _ ih

theorem flatMap_erase_getD (k : κ) {m : AList κ (List β)} (hn : NodupKeys m) :
    (m.flatMap (·.2)).Perm ((lookup k m).getD [] ++ (erase k m).flatMap (·.2)) := by
  cases h : lookup k m with
  | none => simp [erase_of_lookup_none h]
  | some v => simpa using (perm_cons_erase hn h).flatMap_right (·.2)
end tables

section curry
variable {κ₁ κ₂ ν : Type} [DecidableEq κ₁] [DecidableEq κ₂]

def lookup₂ (a : κ₁) (b : κ₂) (p : AList κ₁ (AList κ₂ ν)) : Option ν := (lookup a p).bind (lookup b)

/-- `p[e.1.1][e.1.2] = e.2`, creating `p[e.1.1]` when absent -/
def curryStep (p : AList κ₁ (AList κ₂ ν)) (e : (κ₁ × κ₂) × ν) : AList κ₁ (AList κ₂ ν) :=
  upsert e.1.1 (fun o => upsert e.1.2 (fun _ => e.2) (o.getD [])) p

/-- a map over pairs as Go's `map[K1]map[K2]V`, filled entry by entry -/
def curry (m : AList (κ₁ × κ₂) ν) : AList κ₁ (AList κ₂ ν) := m.foldl curryStep []

def WF₂ (p : AList κ₁ (AList κ₂ ν)) : Prop := NodupKeys p ∧ ∀ e ∈ p, NodupKeys e.2

theorem lookup_getD_nil (a : κ₁) (b : κ₂) (p : AList κ₁ (AList κ₂ ν)) :
    lookup b ((lookup a p).getD []) = lookup₂ a b p := by
  cases h : lookup a p <;> simp [lookup₂, h]

theorem lookup₂_curryStep (p : AList κ₁ (AList κ₂ ν)) (e : (κ₁ × κ₂) × ν) (a : κ₁) (b : κ₂) :
    lookup₂ a b (curryStep p e) = if e.1 = (a, b) then some e.2 else lookup₂ a b p := by
  obtain ⟨⟨a0, b0⟩, v⟩ := e
  simp only [lookup₂, curryStep, lookup_upsert, Prod.mk.injEq]
  by_cases h1 : a0 = a
  · subst h1; simp only [if_true, Option.bind_some, lookup_upsert, true_and, lookup_getD_nil, lookup₂]
  · simp [h1]

theorem lookup₂_curry (m : AList (κ₁ × κ₂) ν) (hm : NodupKeys m) (a : κ₁) (b : κ₂) :
    lookup₂ a b (curry m) = lookup (a, b) m := by
  rw [curry, look_foldl curryStep (lookup₂ a b) (a, b) (fun v _ => some v) (fun p e => lookup₂_curryStep p e a b) hm]
  cases lookup (a, b) m <;> rfl

theorem wf₂_curryStep (p : AList κ₁ (AList κ₂ ν)) (e : (κ₁ × κ₂) × ν) (h : WF₂ p) : WF₂ (curryStep p e) :=
  ⟨nodupKeys_upsert _ _ h.1, forall_upsert _ _ p h.2 fun o ho => nodupKeys_upsert _ _ <| by
    cases o with
    | none => exact nodupKeys_nil
    | some q => exact ho q rfl⟩

theorem wf₂_curry (m : AList (κ₁ × κ₂) ν) : WF₂ (curry m) :=
  List.foldlRecOn m curryStep (motive := WF₂) ⟨List.nodup_nil, by simp⟩ (fun p hp e _ => wf₂_curryStep p e hp)

theorem mem_keys_curry (m : AList (κ₁ × κ₂) ν) (a : κ₁) : a ∈ keys (curry m) ↔ ∃ e ∈ m, e.1.1 = a := by
  have gen : ∀ p : AList κ₁ (AList κ₂ ν), a ∈ keys (m.foldl curryStep p) ↔ a ∈ keys p ∨ ∃ e ∈ m, e.1.1 = a := by
    induction m with
    | nil => simp
    | cons e t ih =>
      intro p
      simp only [List.foldl_cons, ih, curryStep, mem_keys_upsert, List.mem_cons, exists_eq_or_imp]
      rw [or_assoc, or_left_comm, eq_comm]
  exact (gen []).trans (or_iff_right List.not_mem_nil)

end curry

end AList
end Gsd

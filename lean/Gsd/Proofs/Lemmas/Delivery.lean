import Gsd.Proofs.Lemmas.Forward
/-! Lemmas for C15 (core-only): the consolidator system, `SplitByTags`, the retry loop.

Consolidator: the ids in the system are kept as one list per place (`CS.pend`); an action permutes them, adds one
(`take`) or hands all pending ones to the sink (`send`).  `GInv` is the bookkeeping over those lists, with one lemma per
shape; `CInv` adds the slot counts and `cinv_step` supplies one permutation per action. -/
namespace Gsd

theorem removeNth_nil {β : Type} (i : Nat) : removeNth ([] : List β) i = none := rfl

theorem removeNth_perm {β : Type} {l : List β} {i : Nat} {x : β} {r : List β}
    (h : removeNth l i = some (x, r)) : l.Perm (x :: r) := by
  induction l generalizing i x r with
  | nil => cases h
  | cons y t ih =>
    cases i with
    | zero => cases h; exact .refl _
    | succ i =>
      simp only [removeNth] at h
      cases hq : removeNth t i with
      | none => simp [hq] at h
      | some p =>
        simp only [hq, Option.some.injEq, Prod.mk.injEq] at h
        obtain ⟨rfl, rfl⟩ := h
        exact ((ih hq).cons y).trans (.swap _ _ _)

theorem flatten_replicate_nil {β : Type} (k : Nat) : (List.replicate k ([] : List β)).flatten = [] :=
  List.flatten_replicate_nil

theorem occLL_eq_count (d : Nat) (l : List (List Nat)) : occLL d l = l.flatten.count d := by
  induction l with
  | nil => rfl
  | cons x t ih => simp [occLL, List.count_append, ih]

def CS.pend (s : CS) : List Nat :=
  s.got.flatten ++ s.chan.flatten ++ (s.held.map Prod.snd).flatten ++ s.held.map Prod.fst

theorem CS.pending_iff (s : CS) (d : Nat) : s.pending d ↔ d ∈ s.pend := by
  simp only [CS.pending, CS.pend, List.mem_append, or_assoc]

theorem CS.occ_eq (s : CS) (d : Nat) : s.occ d = (s.flushes.flatten ++ s.pend).count d := by
  simp only [CS.occ, CS.pend, occLL_eq_count, List.count_append]; omega

structure GInv (fl : List (List Nat)) (pend : List Nat) (next : Nat) (log : List Nat) : Prop where
  ids : (fl.flatten ++ pend).Perm (List.range next)
  loglen : log.length = next
  logDone : ∀ (j d : Nat), d ∈ fl[j]?.getD [] → log[d]? = some j
  logPend : ∀ d ∈ pend, log[d]? = some fl.length

namespace GInv
variable {fl : List (List Nat)} {pend pend' g : List Nat} {next : Nat} {log : List Nat}

theorem perm (h : GInv fl pend next log) (hp : pend'.Perm pend) : GInv fl pend' next log :=
  ⟨(hp.append_left _).trans h.ids, h.loglen, h.logDone, fun d hd => h.logPend d (hp.mem_iff.mp hd)⟩

theorem take (h : GInv fl pend next log) (hp : pend'.Perm (next :: pend)) :
    GInv fl pend' (next + 1) (log ++ [fl.length]) where
  ids := by
    rw [List.range_succ]
    exact ((hp.append_left _).trans List.perm_middle).trans ((h.ids.cons next).trans (List.perm_append_singleton _ _).symm)
  loglen := by simp [h.loglen]
  logDone := fun j d hd => getElem?_append_of_some _ (h.logDone j d hd)
  logPend := by
    intro d hd
    rcases List.mem_cons.mp (hp.mem_iff.mp hd) with rfl | hd
    · rw [List.getElem?_append_right (by rw [h.loglen]; exact Nat.le_refl _)]; simp [h.loglen]
    · exact getElem?_append_of_some _ (h.logPend d hd)

theorem send (h : GInv fl pend next log) (hg : g.Perm pend) : GInv (fl ++ [g]) [] next log where
  ids := by simpa using (hg.append_left fl.flatten).trans h.ids
  loglen := h.loglen
  logDone := by
    intro j d hd
    rcases Nat.lt_trichotomy j fl.length with hj | rfl | hj
    · rw [List.getElem?_append_left hj] at hd; exact h.logDone j d hd
    · rw [List.getElem?_append_right (Nat.le_refl _)] at hd
      exact h.logPend d (hg.mem_iff.mp (by simpa using hd))
    · rw [List.getElem?_eq_none (by simp; omega)] at hd; simp at hd
  logPend := by simp

theorem lt_of_log (h : GInv fl pend next log) {d f : Nat} (hl : log[d]? = some f) : d < next :=
  h.loglen ▸ (List.getElem?_eq_some_iff.mp hl).1

theorem place (h : GInv fl pend next log) {d : Nat} (hd : d < next) :
    (∃ j, j < fl.length ∧ d ∈ fl[j]?.getD []) ∨ d ∈ pend := by
  rcases List.mem_append.mp (h.ids.mem_iff.mpr (List.mem_range.mpr hd)) with hm | hm
  · obtain ⟨l, hl, hdl⟩ := List.mem_flatten.mp hm
    obtain ⟨j, hj⟩ := List.mem_iff_getElem?.mp hl
    exact Or.inl ⟨j, (List.getElem?_eq_some_iff.mp hj).1, by simpa [hj] using hdl⟩
  · exact Or.inr hm

theorem nodup (h : GInv fl pend next log) : (fl.flatten ++ pend).Nodup := h.ids.nodup_iff.mpr List.nodup_range

end GInv

structure CInv (k : Nat) (s : CS) : Prop where
  slots : s.k = k
  cnt_fill : s.needFill = true → s.chan = [] ∧ s.held = [] ∧ s.got = []
  cnt : s.needFill = false → s.chan.length + s.held.length + s.got.length = s.k
  ghost : GInv s.flushes s.pend s.next s.log

theorem CInv.drained {k : Nat} {s : CS} (hs : CInv k s) (hf : s.needFill = false) (hg : s.got.length = s.k) :
    s.chan = [] ∧ s.held = [] := by
  have := hs.cnt hf
  exact ⟨List.eq_nil_of_length_eq_zero (by omega), List.eq_nil_of_length_eq_zero (by omega)⟩

theorem cinv_init (k : Nat) : CInv k (cinit k) where
  slots := rfl
  cnt_fill := by simp [cinit]
  cnt := by simp [cinit]
  ghost := ⟨by simp [cinit, CS.pend], rfl, by simp [cinit], by simp [cinit, CS.pend]⟩

theorem cinv_step {k : Nat} (s s' : CS) (a : CA) (hs : CInv k s) (h : cstep s a = some s') : CInv k s' := by
  cases a with
  | take i =>
    simp only [cstep] at h
    split at h <;> cases h
    next slot rest hq =>
      have hp := removeNth_perm hq
      refine ⟨hs.slots, fun hf => ?_, fun hf => ?_, hs.ghost.take (List.perm_iff_count.mpr fun d => ?_)⟩
      · rw [(hs.cnt_fill hf).1] at hq; cases hq
      · have h1 := hs.cnt hf; have h2 := hp.length_eq
        simp only [List.length_append, List.length_cons, List.length_nil] at h2 ⊢; omega
      · have := hp.flatten.count_eq d
        simp [CS.pend, List.count_cons] at this ⊢; omega
  | put j =>
    simp only [cstep] at h
    split at h <;> cases h
    next d0 slot rest hq =>
      have hp := removeNth_perm hq
      refine ⟨hs.slots, fun hf => ?_, fun hf => ?_, hs.ghost.perm (List.perm_iff_count.mpr fun d => ?_)⟩
      · rw [(hs.cnt_fill hf).2.1] at hq; cases hq
      · have h1 := hs.cnt hf; have h2 := hp.length_eq
        simp only [List.length_append, List.length_cons, List.length_nil] at h2 ⊢; omega
      · have h1 := ((hp.map Prod.snd).flatten).count_eq d
        have h2 := (hp.map Prod.fst).count_eq d
        simp [CS.pend, List.count_cons] at h1 h2 ⊢; omega
  | drainOne i =>
    simp only [cstep, Option.ite_none_left_eq_some, Bool.or_eq_true, not_or, Bool.not_eq_true] at h
    obtain ⟨⟨hf, -⟩, h⟩ := h
    split at h <;> cases h
    next slot rest hq =>
      have hp := removeNth_perm hq
      refine ⟨hs.slots, fun hf' => by simp [hf] at hf', fun _ => ?_, hs.ghost.perm (List.perm_iff_count.mpr fun d => ?_)⟩
      · have h1 := hs.cnt hf; have h2 := hp.length_eq
        simp only [List.length_append, List.length_cons, List.length_nil] at h2 ⊢; omega
      · have := hp.flatten.count_eq d
        simp [CS.pend] at this ⊢; omega
  | send =>
    simp only [cstep, Bool.and_eq_true, Bool.not_eq_true', beq_iff_eq] at h
    split at h <;> cases h
    next hg =>
      obtain ⟨h1, h2⟩ := hs.drained hg.1 hg.2
      have hg' : s.got.flatten.Perm s.pend := by simp [CS.pend, h1, h2]
      exact ⟨hs.slots, fun _ => ⟨h1, h2, rfl⟩, nofun, by simpa [CS.pend, h1, h2] using hs.ghost.send hg'⟩
  | fill =>
    simp only [cstep] at h
    split at h <;> cases h
    next hg =>
      obtain ⟨h1, h2, h3⟩ := hs.cnt_fill hg
      exact ⟨hs.slots, nofun, fun _ => by simp [h1, h2, h3, hs.slots], by simpa [CS.pend, h1, h2, h3] using hs.ghost⟩

theorem crun_eq_foldlM (s : CS) (acts : List CA) : crun s acts = acts.foldlM cstep s :=
  eq_foldlM_of_rec (fun _ => rfl) (fun s a t => by rw [crun]; cases cstep s a <;> rfl) s acts

theorem cinv_run {k : Nat} (s s' : CS) (acts : List CA) (hs : CInv k s) (h : crun s acts = some s') : CInv k s' :=
  foldlM_inv (CInv k) (fun s a s' hs h => cinv_step s s' a hs h) acts hs (crun_eq_foldlM s acts ▸ h)

open AList

theorem dedupStr_eq (l : List String) : dedupStr l = setUnion [] l := rfl

theorem retryLoop_fail_next (m : Nat) (script : List Outcome) (bo : List Backoff) (st : RetrySt) :
    retryLoop (List.replicate m .fail ++ script) (List.replicate m .next ++ bo) st =
      retryLoop script bo { st with attempts := st.attempts ++ List.replicate m .fail,
                                    c := { st.c with retried := st.c.retried + m } } := by
  induction m generalizing st with
  | zero => simp
  | succ m ih =>
    simp only [List.replicate_succ, List.cons_append, retryLoop, ih]
    simp [Nat.add_assoc, Nat.add_comm 1 m]

theorem retry_split (script : List Outcome) (bo : List Backoff) :
    ∃ m tail bo', script = List.replicate m .fail ++ tail ∧ bo = List.replicate m .next ++ bo' ∧
      (tail = [] ∨ (∃ t, tail = .ok :: t) ∨
       (∃ t, tail = .fail :: t ∧ (bo' = [] ∨ ∃ u, bo' = .stop :: u)) ∨ (∃ t u, tail = .fail :: t ∧ bo' = .cancel :: u)) := by
  induction script generalizing bo with
  | nil => exact ⟨0, [], bo, rfl, rfl, .inl rfl⟩
  | cons o rest ih =>
    cases o with
    | ok => exact ⟨0, _, bo, rfl, rfl, .inr (.inl ⟨rest, rfl⟩)⟩
    | fail =>
      cases bo with
      | nil => exact ⟨0, _, [], rfl, rfl, .inr (.inr (.inl ⟨rest, rfl, .inl rfl⟩))⟩
      | cons b bo' =>
        cases b with
        | stop => exact ⟨0, _, _, rfl, rfl, .inr (.inr (.inl ⟨rest, rfl, .inr ⟨bo', rfl⟩⟩))⟩
        | cancel => exact ⟨0, _, _, rfl, rfl, .inr (.inr (.inr ⟨rest, bo', rfl, rfl⟩))⟩
        | next =>
          obtain ⟨m, tail, b', h1, h2, h3⟩ := ih bo'
          exact ⟨m + 1, tail, b', by rw [h1, List.replicate_succ, List.cons_append],
            by rw [h2, List.replicate_succ, List.cons_append], h3⟩

end Gsd

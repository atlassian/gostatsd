import Gsd.Proofs.Lemmas.LexerEvent
/-!
Helper lemmas about the metric chain and about `Lexer.run` as a whole (which chain a line takes, what the chain
is once its bounds checks are known to pass, inversion of an accepted outcome), used by the property theorems of
C02 and C03.
-/
namespace Gsd
section
open Lexer
variable {F : Type} [FloatLike F]

def Lexer.Outcome.Accepted (o : Outcome F) : Prop := (∃ m, o = .metric m) ∨ (∃ e, o = .event e)

end
end Gsd

namespace Gsd.Lexer

section
variable {F : Type} [FloatLike F]

def metricTail (cfg : Cfg) (pf : Bytes → Option F) (ns raw v r2 : Bytes) : Res (Bytes × MType × Bytes × F × List Bytes) :=
  (lexType r2).bind fun (ty, r3) =>
    (attrs (mAttr cfg pf) .sep (FloatLike.one, []) r3).bind fun (rate, tagsRev) =>
      .ok (withNs ns (norm raw), ty, v, rate, tagsRev.reverse)

theorem metricLine_eq (cfg : Cfg) (pf : Bytes → Option F) (ns : Bytes) (cap : Nat) (raw r1 : Bytes)
    (h0 : (0 : UInt8) ∉ raw) (hc : (58 : UInt8) ∉ raw)
    (hlt : (raw ++ 58 :: r1).length < 4294967296) (hcap : (raw ++ 58 :: r1).length ≤ cap) :
    metricLine cfg pf ns cap (UInt32.ofNat (raw ++ 58 :: r1).length) (raw ++ 58 :: r1) =
      if norm raw = [] then .err .emptyKey else (valueSep [] r1).bind fun (v, r2) => metricTail cfg pf ns raw v r2 := by
  have hlen := UInt32.toNat_ofNat_of_lt' hlt
  obtain ⟨len', e, l1, l2⟩ := keySep_append cap raw r1 h0 hc (UInt32.ofNat (raw ++ 58 :: r1).length) [] (Nat.le_of_eq hlen.symm)
    (Nat.le_trans (Nat.le_of_eq hlen) hcap)
  have l2 : len'.toNat ≤ cap := Nat.le_trans l2 (Nat.le_trans (Nat.le_of_eq hlen) hcap)
  clear hlen hlt hcap  -- `omega` below needs `l1` and `l2` only
  simp only [metricLine, e, Res.bind_ok, List.append_nil, List.reverse_eq_nil_iff, List.reverse_reverse]
  split
  · rfl
  rw [guard_true _ (by simp only [sliceOk, toNat_cursor_sub_one l1, UInt32.toNat_zero, Bool.and_eq_true, decide_eq_true_eq]; omega)]
  rcases valueSep_cases r1 [] with ev | ⟨v, r2, rfl, _, _, ev⟩
  · rw [ev]; rfl
  simp only [List.length_append, List.length_cons] at l1
  simp only [ev, Res.bind_ok, List.reverse_nil, List.nil_append]
  rw [guard_true _ (by
    simp only [sliceOk, toNat_cursor (Nat.le_of_succ_le l1), toNat_cursor_sub_one (len := len') (n := r2.length) (by omega),
      List.length_append, List.length_cons, Bool.and_eq_true, decide_eq_true_eq]; omega)]
  unfold metricTail
  rcases lexType_cases r2 with et | ⟨sp, r3, rfl, et⟩
  · rw [et]; rfl
  simp only [List.length_append] at l1
  simp only [et, Res.bind_ok]
  rw [mattrs_eq_attrs cfg pf ⟨len', cap⟩ (by simp only; omega) r3 _ _ (by simp only; omega)]

theorem metricLine_cases (cfg : Cfg) (pf : Bytes → Option F) (ns : Bytes) (cap : Nat) (input : Bytes)
    (hlt : input.length < 4294967296) (hcap : input.length ≤ cap) :
    metricLine cfg pf ns cap (UInt32.ofNat input.length) input = .err .keysep ∨
    ∃ raw r1, input = raw ++ 58 :: r1 ∧ (0 : UInt8) ∉ raw ∧ (58 : UInt8) ∉ raw ∧
      metricLine cfg pf ns cap (UInt32.ofNat input.length) input =
        if norm raw = [] then .err .emptyKey else (valueSep [] r1).bind fun (v, r2) => metricTail cfg pf ns raw v r2 := by
  have hlen := UInt32.toNat_ofNat_of_lt' hlt
  rcases keySep_cases cap input (UInt32.ofNat input.length) [] (Nat.le_of_eq hlen.symm) (Nat.le_trans (Nat.le_of_eq hlen) hcap) with e | ⟨raw, r1, _, rfl, h0, hc, _⟩
  · left; simp [metricLine, e]
  · right; exact ⟨raw, r1, rfl, h0, hc, metricLine_eq cfg pf ns cap raw r1 h0 hc hlt hcap⟩

theorem metricLine_ne_panic (cfg : Cfg) (pf : Bytes → Option F) (ns : Bytes) (cap : Nat) (input : Bytes)
    (hlt : input.length < 4294967296) (hcap : input.length ≤ cap) :
    metricLine cfg pf ns cap (UInt32.ofNat input.length) input ≠ .panic := by
  rcases metricLine_cases cfg pf ns cap input hlt hcap with e | ⟨raw, r1, _, _, _, e⟩ <;> rw [e]
  · simp
  · split
    · simp
    · exact Res.bind_ne_panic (valueSep_ne_panic _ _) fun _ _ => Res.bind_ne_panic (lexType_ne_panic _) fun _ _ =>
        Res.bind_ne_panic (mAttr_wf cfg pf _ _ [] (by simp) fun _ => FloatLike.rateOk_one).ne_panic (by simp)

theorem head?_name (raw r1 : Bytes) : (raw ++ 58 :: r1).head? = some 95 ↔ raw.head? = some 95 := by
  cases raw <;> simp

/-- at the end of the input `next()` returns NUL -/
theorem run_eq (cfg : Cfg) (pf : Bytes → Option F) (ns : Bytes) (cap : Nat) (input : Bytes) :
    run cfg pf ns cap input =
      if input.head? = some 95 then ofEventRes (datadog cfg ⟨UInt32.ofNat input.length, cap⟩ input input.tail)
      else if input.head?.getD 0 = 0 then .reject .type
      else ofMetricRes pf (metricLine cfg pf ns cap (UInt32.ofNat input.length) input) := by
  cases input with
  | nil => rfl
  | cons b t => simp only [run, List.head?_cons, Option.some.injEq, Option.getD_some, List.tail_cons]; rfl

theorem run_named (cfg : Cfg) (pf : Bytes → Option F) (ns : Bytes) (cap : Nat) (raw r1 : Bytes)
    (hh : raw.head? ≠ some 95) (h0 : (0 : UInt8) ∉ raw) (h58 : (58 : UInt8) ∉ raw)
    (hlt : (raw ++ 58 :: r1).length < 4294967296) (hcap : (raw ++ 58 :: r1).length ≤ cap) :
    run cfg pf ns cap (raw ++ 58 :: r1) = ofMetricRes pf
      (if norm raw = [] then .err .emptyKey else (valueSep [] r1).bind fun (v, r2) => metricTail cfg pf ns raw v r2) := by
  rw [← metricLine_eq cfg pf ns cap raw r1 h0 h58 hlt hcap, run_eq, if_neg (fun h => hh ((head?_name raw r1).1 h))]
  cases raw with
  | nil => rfl
  | cons b t => exact if_neg (List.ne_of_not_mem_cons h0).symm

theorem run_rendered (cfg : Cfg) (pf : Bytes → Option F) (ns : Bytes) (cap : Nat) (raw v : Bytes) (sp : TypeSp) (fs : List Field)
    (tail : Bytes) (hh : raw.head? ≠ some 95) (h0 : (0 : UInt8) ∉ raw) (h58 : (58 : UInt8) ∉ raw) (hv0 : (0 : UInt8) ∉ v)
    (hvb : (124 : UInt8) ∉ v) (hfs : ∀ f ∈ fs, f.WF cfg pf) (hs : SepTail tail)
    (hlt : (raw ++ 58 :: (v ++ 124 :: (sp.bytes ++ (renderFields fs ++ tail)))).length < 4294967296)
    (hcap : (raw ++ 58 :: (v ++ 124 :: (sp.bytes ++ (renderFields fs ++ tail)))).length ≤ cap) :
    run cfg pf ns cap (raw ++ 58 :: (v ++ 124 :: (sp.bytes ++ (renderFields fs ++ tail)))) =
      if norm raw = [] then .reject .emptyKey else
        ofMetricRes pf ((attrs (mAttr cfg pf) .sep (specRate pf fs FloatLike.one, (specTags fs).reverse) tail).bind fun (rate, tagsRev) =>
          .ok (withNs ns (norm raw), sp.type, v, rate, tagsRev.reverse)) := by
  rw [run_named cfg pf ns cap _ _ hh h0 h58 hlt hcap]
  split
  · rfl
  · simp only [valueSep_append _ _ hv0 hvb, Res.bind_ok, metricTail, lexType_bytes, List.reverse_nil, List.nil_append,
      mfields_run cfg pf fs hfs _ hs, List.append_nil]

omit [FloatLike F] in
theorem ofEventRes_ne_metric (x : Res Event) (m : Metric F) : (ofEventRes x : Outcome F) ≠ .metric m := by
  cases x <;> simp [ofEventRes]

theorem finishMetric_cases (pf : Bytes → Option F) (name : Bytes) (ty : MType) (value : Bytes) (rate : F) (tags : List Bytes) :
    (∃ e, finishMetric pf name ty value rate tags = .reject e) ∨
    ∃ m, finishMetric pf name ty value rate tags = .metric m ∧ m.name = name ∧ m.type = ty ∧ m.rate = rate ∧ m.tags = tags ∧
      (ty = .set → m.value = none ∧ m.svalue = value) ∧
      (ty ≠ .set → ∃ v, pf value = some v ∧ FloatLike.isNaN v = false ∧ m.value = some v ∧ m.svalue = []) := by
  unfold finishMetric
  by_cases hs : ty = .set
  · rw [if_pos hs]; exact .inr ⟨_, rfl, rfl, rfl, rfl, rfl, fun _ => ⟨rfl, rfl⟩, fun h => absurd hs h⟩
  rw [if_neg hs]
  cases pf value with
  | none => exact .inl ⟨_, rfl⟩
  | some v =>
    dsimp only
    cases hn : FloatLike.isNaN v with
    | true => exact .inl ⟨_, rfl⟩
    | false => exact .inr ⟨_, rfl, rfl, rfl, rfl, rfl, fun h => absurd h hs, fun _ => ⟨v, rfl, hn, rfl, rfl⟩⟩

theorem ofMetricRes_cases (pf : Bytes → Option F) (x : Res (Bytes × MType × Bytes × F × List Bytes)) :
    (x = .panic ∧ ofMetricRes pf x = .panic) ∨ (∃ e, ofMetricRes pf x = .reject e) ∨
    ∃ a m, x = .ok a ∧ ofMetricRes pf x = .metric m := by
  match x with
  | .panic => exact .inl ⟨rfl, rfl⟩
  | .err e => exact .inr (.inl ⟨e, rfl⟩)
  | .ok (name, ty, value, rate, tags) =>
    rcases finishMetric_cases pf name ty value rate tags with h | ⟨m, h, _⟩
    · exact .inr (.inl h)
    · exact .inr (.inr ⟨_, m, rfl, h⟩)

theorem run_plain (cfg : Cfg) (pf : Bytes → Option F) (ns : Bytes) (cap : Nat) (input : Bytes)
    (hlt : input.length < 4294967296) (hcap : input.length ≤ cap) (hh : input.head? ≠ some 95) :
    (∃ e, run cfg pf ns cap input = .reject e) ∨ ∃ m, run cfg pf ns cap input = .metric m := by
  rw [run_eq, if_neg hh]
  split
  · exact .inl ⟨_, rfl⟩
  rcases ofMetricRes_cases pf (metricLine cfg pf ns cap (UInt32.ofNat input.length) input) with ⟨h, _⟩ | h | ⟨_, m, _, h⟩
  · exact absurd h (metricLine_ne_panic cfg pf ns cap input hlt hcap)
  · exact .inl h
  · exact .inr ⟨m, h⟩

theorem run_ne_panic (cfg : Cfg) (pf : Bytes → Option F) (ns : Bytes) (cap : Nat) (input : Bytes)
    (hlt : input.length < 4294967296) (hcap : input.length ≤ cap) (h : cfg.wideLenCheck = true ∨ input.head? ≠ some 95) :
    run cfg pf ns cap input ≠ .panic := by
  by_cases hh : input.head? = some 95
  · obtain ⟨t, rfl⟩ := List.head?_eq_some_iff.1 hh
    have hg : (⟨UInt32.ofNat (95 :: t).length, cap⟩ : Ghost).len.toNat = (95 :: t).length := UInt32.toNat_ofNat_of_lt' hlt
    have hnp := datadog_wide_ne_panic cfg (h.resolve_right fun n => n hh) ⟨UInt32.ofNat (95 :: t).length, cap⟩ [95] t hg
      (Nat.le_trans (Nat.le_of_eq hg) hcap)
    rw [run_eq, if_pos hh, List.tail_cons]
    cases hd : datadog cfg ⟨UInt32.ofNat (95 :: t).length, cap⟩ (95 :: t) t with
    | panic => exact absurd hd hnp
    | ok _ | err _ => simp [ofEventRes]
  · rcases run_plain cfg pf ns cap input hlt hcap hh with ⟨e, h⟩ | ⟨m, h⟩ <;> simp [h]

theorem run_metric_inv {cfg : Cfg} {pf : Bytes → Option F} {ns : Bytes} {cap : Nat} {input : Bytes} {m : Metric F}
    (hlt : input.length < 4294967296) (hcap : input.length ≤ cap) (h : run cfg pf ns cap input = .metric m) :
    input.head? ≠ some 95 ∧
    ∃ raw v sp r3 rate tagsRev, input = raw ++ 58 :: (v ++ 124 :: (TypeSp.bytes sp ++ r3)) ∧
      (0 : UInt8) ∉ raw ∧ (58 : UInt8) ∉ raw ∧ norm raw ≠ [] ∧ (0 : UInt8) ∉ v ∧ (124 : UInt8) ∉ v ∧
      attrs (mAttr cfg pf) .sep (FloatLike.one, []) r3 = .ok (rate, tagsRev) ∧
      m.name = withNs ns (norm raw) ∧ m.type = sp.type ∧ m.rate = rate ∧ m.tags = tagsRev.reverse ∧
      (sp.type = .set → m.value = none ∧ m.svalue = v) ∧
      (sp.type ≠ .set → ∃ x, pf v = some x ∧ FloatLike.isNaN x = false ∧ m.value = some x ∧ m.svalue = []) := by
  rw [run_eq] at h
  split at h
  · exact absurd h (ofEventRes_ne_metric _ _)
  next hh =>
  refine ⟨hh, ?_⟩
  split at h
  · simp at h
  -- every stage of the chain either stops it with an error or splits its piece off the line
  rcases metricLine_cases cfg pf ns cap input hlt hcap with e | ⟨raw, r1, rfl, h0, h58, e⟩ <;> rw [e] at h
  · simp [ofMetricRes] at h
  split at h
  · simp [ofMetricRes] at h
  next hn =>
  rcases valueSep_cases r1 [] with ev | ⟨v, r2, rfl, hv0, hvb, ev⟩ <;> rw [ev] at h
  · simp [ofMetricRes] at h
  rcases lexType_cases r2 with et | ⟨sp, r3, rfl, et⟩ <;> simp only [Res.bind_ok, Res.bind_err, metricTail, et] at h
  · simp [ofMetricRes] at h
  cases hma : attrs (mAttr cfg pf) .sep (FloatLike.one, []) r3 with
  | err _ | panic => rw [hma] at h; simp [ofMetricRes] at h
  | ok a =>
    rw [hma, show ofMetricRes pf _ = finishMetric pf (withNs ns (norm raw)) sp.type v a.1 a.2.reverse from rfl] at h
    rcases finishMetric_cases pf (withNs ns (norm raw)) sp.type v a.1 a.2.reverse with ⟨e', h'⟩ | ⟨m', h', facts⟩ <;> rw [h'] at h
    · simp at h
    · exact Outcome.metric.inj h ▸ ⟨raw, v, sp, r3, a.1, a.2, rfl, h0, h58, hn, hv0, hvb, hma, facts⟩

theorem run_event_inv {cfg : Cfg} {pf : Bytes → Option F} {ns : Bytes} {cap : Nat} {input : Bytes} {e : Event}
    (h : run cfg pf ns cap input = .event e) : ∃ t, input = 95 :: t ∧
      datadog cfg ⟨UInt32.ofNat input.length, cap⟩ input t = .ok e := by
  rw [run_eq] at h
  split at h
  · next hh =>
    obtain ⟨t, rfl⟩ := List.head?_eq_some_iff.1 hh
    refine ⟨t, rfl, ?_⟩
    rw [List.tail_cons] at h
    cases hd : datadog cfg ⟨UInt32.ofNat (95 :: t).length, cap⟩ (95 :: t) t with
    | ok e' => rw [hd] at h; exact congrArg Res.ok (Outcome.event.inj h)
    | err _ | panic => rw [hd] at h; simp [ofEventRes] at h
  · split at h
    · simp at h
    · rcases ofMetricRes_cases pf (metricLine cfg pf ns cap (UInt32.ofNat input.length) input) with
        ⟨_, he⟩ | ⟨_, he⟩ | ⟨_, _, _, he⟩ <;> rw [he] at h <;> simp at h

end
end Gsd.Lexer

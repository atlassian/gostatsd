import Gsd.Proofs.Lemmas.LexerAttrs
/-!
Helper lemmas about the event chain of the lexer model: `lexEventBody`, the event header, `datadog`.
-/
namespace Gsd.Lexer

theorem toNat_add_of_lt {a b : UInt32} (h : a.toNat + b.toNat < 4294967296) : (a + b).toNat = a.toNat + b.toNat := by
  rw [UInt32.toNat_add]; exact Nat.mod_eq_of_lt h

theorem Ghost.len_sub_at (g : Ghost) {n : Nat} (hr : n ≤ g.len.toNat) : (g.len - g.at n).toNat = n := by
  rw [UInt32.toNat_sub_of_le _ _ (by rw [UInt32.le_iff_toNat_le, g.toNat_at hr]; omega), g.toNat_at hr]; omega

theorem lenShort_of_fit (cfg : Cfg) (g : Ghost) {n : Nat} (tl xl : UInt32) (hr : n ≤ g.len.toNat)
    (hfit : tl.toNat + 1 + xl.toNat ≤ n) : lenShort cfg g.len (g.at n) tl xl = false := by
  have hn : n < 4294967296 := Nat.lt_of_le_of_lt hr g.len.toNat_lt
  have h2 : (tl + 1).toNat = tl.toNat + 1 := by rw [toNat_add_of_lt (by rw [UInt32.toNat_one]; omega), UInt32.toNat_one]
  have h3 : (tl + 1 + xl).toNat = tl.toNat + 1 + xl.toNat := by rw [toNat_add_of_lt (by omega), h2]
  unfold lenShort
  split
  · simp only [decide_eq_false_iff_not, UInt64.lt_iff_toNat_lt, UInt32.toNat_toUInt64, UInt64.toNat_add, g.len_sub_at hr,
      UInt64.toNat_one]
    omega
  · simp only [decide_eq_false_iff_not, UInt32.lt_iff_toNat_lt, g.len_sub_at hr, h3]; omega

/-- the 32-bit test passes also when the sum of the lengths wraps (D1) -/
theorem fit_of_lenShort_wide (cfg : Cfg) (hw : cfg.wideLenCheck = true) (g : Ghost) {n : Nat} (tl xl : UInt32) (hr : n ≤ g.len.toNat)
    (h : lenShort cfg g.len (g.at n) tl xl = false) : tl.toNat + 1 + xl.toNat ≤ n := by
  have hT := tl.toNat_lt
  have hX := xl.toNat_lt
  simp only [lenShort, hw, if_true, decide_eq_false_iff_not, UInt64.lt_iff_toNat_lt, UInt32.toNat_toUInt64, UInt64.toNat_add,
    g.len_sub_at hr, UInt64.toNat_one] at h
  omega

theorem eventBody_of_fit (cfg : Cfg) (g : Ghost) (hdr rest : Bytes) (tl xl : UInt32)
    (hlen : g.len.toNat = (hdr ++ rest).length) (hcap : g.len.toNat ≤ g.cap) (hfit : tl.toNat + 1 + xl.toNat ≤ rest.length) :
    eventBody cfg g (hdr ++ rest) rest tl xl =
      if rest[tl.toNat]? ≠ some 124 then .err .format
      else .ok (rest.take tl.toNat, unescape ((rest.drop (tl.toNat + 1)).take xl.toNat), rest.drop (tl.toNat + 1 + xl.toNat)) := by
  have hL := g.len.toNat_lt
  rw [List.length_append] at hlen
  have hr : rest.length ≤ g.len.toNat := by omega
  have hpos : (g.at rest.length).toNat = hdr.length := by rw [g.toNat_at hr]; omega
  have hshort := lenShort_of_fit cfg g tl xl hr hfit
  simp only [eventBody]
  generalize g.at rest.length = pos at hpos hshort ⊢  -- only the cursor's value `hpos` matters from here on
  have hpt : (pos + tl).toNat = hdr.length + tl.toNat := by rw [toNat_add_of_lt (by omega), hpos]
  have ht1 : (tl + 1).toNat = tl.toNat + 1 := by rw [toNat_add_of_lt (by rw [UInt32.toNat_one]; omega), UInt32.toNat_one]
  have hp2 : (pos + (tl + 1)).toNat = hdr.length + (tl.toNat + 1) := by rw [toNat_add_of_lt (by omega), hpos, ht1]
  have hp3 : (pos + (tl + 1) + xl).toNat = hdr.length + (tl.toNat + 1 + xl.toNat) := by rw [toNat_add_of_lt (by omega), hp2, Nat.add_assoc]
  simp only [hshort, Bool.false_eq_true, if_false, slice, hpos, hpt, hp2, hp3]
  rw [guard_true _ (by simp only [indexOk, hpt, decide_eq_true_eq]; omega),
    guard_true _ (by simp only [sliceOk, hpos, hpt, Bool.and_eq_true, decide_eq_true_eq]; omega),
    guard_true _ (by simp only [sliceOk, hp2, hp3, Bool.and_eq_true, decide_eq_true_eq]; omega)]
  simp only [List.getElem?_append_right (Nat.le_add_right _ _), Nat.add_sub_cancel_left, Nat.add_sub_add_left, List.drop_length_add_append,
    List.drop_left]

theorem eventBody_wide_ne_panic (cfg : Cfg) (hw : cfg.wideLenCheck = true) (g : Ghost) (hdr rest : Bytes) (tl xl : UInt32)
    (hlen : g.len.toNat = (hdr ++ rest).length) (hcap : g.len.toNat ≤ g.cap) : eventBody cfg g (hdr ++ rest) rest tl xl ≠ .panic := by
  have hr : rest.length ≤ g.len.toNat := by rw [hlen, List.length_append]; exact Nat.le_add_left _ _
  cases h : lenShort cfg g.len (g.at rest.length) tl xl with
  | true => simp [eventBody, h]
  | false => rw [eventBody_of_fit cfg g hdr rest tl xl hlen hcap (fit_of_lenShort_wide cfg hw g tl xl hr h)]; split <;> simp

theorem eventBody_exact (cfg : Cfg) (g : Ghost) (hdr title text tailF : Bytes)
    (hlen : g.len.toNat = (hdr ++ (title ++ 124 :: (text ++ tailF))).length) (hcap : g.len.toNat ≤ g.cap) :
    eventBody cfg g (hdr ++ (title ++ 124 :: (text ++ tailF))) (title ++ 124 :: (text ++ tailF))
      (UInt32.ofNat title.length) (UInt32.ofNat text.length) = .ok (title, unescape text, tailF) := by
  have hL := g.len.toNat_lt
  have hl := hlen
  simp only [List.length_append, List.length_cons] at hl
  have hT : (UInt32.ofNat title.length).toNat = title.length := by simp only [UInt32.toNat_ofNat']; omega
  have hX : (UInt32.ofNat text.length).toNat = text.length := by simp only [UInt32.toNat_ofNat']; omega
  rw [eventBody_of_fit cfg g hdr _ _ _ hlen hcap (by simp only [hT, hX, List.length_append, List.length_cons]; omega), hT, hX,
    if_neg (by simp), List.take_left, Nat.add_assoc, List.drop_length_add_append, List.drop_length_add_append, Nat.add_comm 1,
    List.drop_succ_cons, List.drop_succ_cons, List.drop_zero, List.drop_left, List.take_left]

theorem eventBody_ok_bar {cfg : Cfg} {g : Ghost} {input rest : Bytes} {tl xl : UInt32} {x : Bytes × Bytes × Bytes}
    (h : eventBody cfg g input rest tl xl = .ok x) : (124 : UInt8) ∈ input ∧ x.2.2.length ≤ input.length := by
  unfold eventBody at h
  dsimp only at h
  split at h
  · simp at h
  · have h := guard_eq_ok h
    split at h
    · simp at h
    · next hidx =>
      have h := guard_eq_ok (guard_eq_ok h)
      simp only [Res.ok.injEq] at h
      subst h
      refine ⟨?_, by simp⟩
      simp only [ne_eq, Decidable.not_not] at hidx
      exact List.mem_of_getElem? hidx

theorem eventHeader_spec (t : Bytes) :
    (eventHeader t).Ensures fun p => (58 : UInt8) ∈ t ∧ p.2.2 <:+ t ∧ t.head? = some 101 := by
  unfold eventHeader
  split
  · trivial
  next b t1 =>
  refine .ite (fun hb => ?_) fun _ => trivial
  refine (lexAssert_spec 123 t1).bind fun t2 e1 => (lexUint32_suffix t2).bind fun p3 s2 => (lexAssert_spec 44 p3.2).bind fun t4 e3 =>
    (lexUint32_suffix t4).bind fun p5 s4 => (lexAssert_spec 125 p5.2).bind fun t6 e5 => (lexAssert_spec 58 t6).bind fun t7 e6 => ?_
  -- `}:` and what follows is a suffix of what follows the `,`, which is a suffix of what follows the `{`
  subst e1
  have suf : 125 :: 58 :: t7 <:+ b :: 123 :: t2 :=
    (e6 ▸ e5 ▸ s4.trans ((List.suffix_cons 44 t4).trans (e3 ▸ s2))).trans ((List.suffix_cons 123 t2).trans (List.suffix_cons b _))
  exact ⟨suf.subset (by simp), ((List.suffix_cons 58 t7).trans (List.suffix_cons 125 _)).trans suf, by rw [hb]; rfl⟩

theorem eventHeader_render (td xd body : Bytes) (h1 : AllDigits td) (h2 : AllDigits xd)
    (f1 : digitsVal td < 4294967296) (f2 : digitsVal xd < 4294967296) :
    eventHeader (101 :: 123 :: (td ++ 44 :: (xd ++ 125 :: 58 :: body))) =
      .ok (UInt32.ofNat (digitsVal td), UInt32.ofNat (digitsVal xd), body) := by
  have n1 : NumTail (44 :: (xd ++ 125 :: 58 :: body)) := Or.inr ⟨44, _, rfl, by decide⟩
  have n2 : NumTail (125 :: 58 :: body) := Or.inr ⟨125, _, rfl, by decide⟩
  simp only [eventHeader, if_true, lexAssert, Res.bind_ok]
  rw [lexUint32_digits td _ h1 n1 f1]
  simp only [Res.bind_ok, if_true]
  rw [lexUint32_digits xd _ h2 n2 f2]
  simp only [Res.bind_ok, if_true]

theorem datadog_wide_ne_panic (cfg : Cfg) (hw : cfg.wideLenCheck = true) (g : Ghost) (hdr t : Bytes)
    (hlen : g.len.toNat = (hdr ++ t).length) (hcap : g.len.toNat ≤ g.cap) : datadog cfg g (hdr ++ t) t ≠ .panic := by
  unfold datadog
  refine Res.bind_ne_panic (eventHeader_spec t).ne_panic (fun ⟨tl, xl, t7⟩ hh => ?_)
  obtain ⟨pre, rfl⟩ : t7 <:+ t := ((eventHeader_spec t).of_eq hh).2.1
  rw [← List.append_assoc] at hlen ⊢
  refine Res.bind_ne_panic (eventBody_wide_ne_panic cfg hw g _ t7 tl xl hlen hcap) (fun ⟨title, text, t8⟩ hb => ?_)
  have := (eventBody_ok_bar hb).2
  dsimp only
  rw [eattrs_eq_attrs g hcap t8 _ (by rw [hlen]; exact this)]
  exact Res.bind_ne_panic (eAttr_wf t8 _ (by simp)).ne_panic (fun _ _ => by simp)

theorem datadog_ok_inv {cfg : Cfg} {g : Ghost} {input t : Bytes} {e : Event} (h : datadog cfg g input t = .ok e) :
    (58 : UInt8) ∈ t ∧ (124 : UInt8) ∈ input ∧ t.head? = some 101 ∧ ∀ x ∈ e.tags, TagOk x := by
  unfold datadog at h
  obtain ⟨⟨tl, xl, t7⟩, hh, h⟩ := Res.bind_eq_ok h
  obtain ⟨⟨title, text, t8⟩, hb, h⟩ := Res.bind_eq_ok h
  obtain ⟨e0, he, h⟩ := Res.bind_eq_ok h
  simp only [Res.ok.injEq] at h
  subst h
  have hi := (eventHeader_spec t).of_eq hh
  refine ⟨hi.1, (eventBody_ok_bar hb).1, hi.2.2, ?_⟩
  intro x hx
  exact (eAttr_wf t8 _ (by simp)).of_eq ((eattrs_refines g t8 .sep _).of_ok he) x (by simpa using hx)

theorem datadog_no_colon (cfg : Cfg) (g : Ghost) (input t : Bytes) (h : (58 : UInt8) ∉ t) : ∃ e, datadog cfg g input t = .err e := by
  unfold datadog
  cases hh : eventHeader t with
  | ok a => exact absurd ((eventHeader_spec t).of_eq hh).1 h
  | err e => exact ⟨e, rfl⟩
  | panic => exact absurd hh (eventHeader_spec t).ne_panic

end Gsd.Lexer

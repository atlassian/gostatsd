import Gsd.Model.Aggregator
import Gsd.Proofs.Lemmas.AList
import Mathlib.Algebra.Order.Floor.Ring
import Mathlib.Algebra.Order.Field.Basic
import Mathlib.Algebra.BigOperators.Group.List.Basic
import Mathlib.Tactic.Ring
import Mathlib.Tactic.Linarith
/-!
For C08 / C04.  `Num` is read exactly (`exactNum`: any linearly ordered field with a floor; `sqrt` an arbitrary
function).  For each function of `Flush` one equation gives its value or the site of its panic: C08 reads the value
off it, C04 that the repaired code returns for thresholds of magnitude at most 100.  The bucket table of a histogram
timer is treated as an association list keyed by the bound.
-/
namespace Gsd

namespace Res

theorem bind_eq_ok {β γ : Type} {x : Res β} {f : β → Res γ} {r : γ} :
    (x >>= f) = .ok r ↔ ∃ a, x = .ok a ∧ f a = .ok r := by
  cases x with
  | ok a => exact ⟨fun h => ⟨a, rfl, h⟩, fun ⟨_, h1, h2⟩ => by cases h1; exact h2⟩
  | panic st => exact ⟨fun h => (by cases h), fun ⟨_, h1, _⟩ => (by cases h1)⟩

theorem map_ok {β γ : Type} (g : β → γ) (v : β) : (ok v).map g = ok (g v) := rfl

def okUnless {β : Type} (v : β) : Option Site → Res β
  | none => ok v
  | some st => panic st

@[simp] theorem okUnless_none {β : Type} (v : β) : okUnless v none = ok v := rfl
@[simp] theorem okUnless_some {β : Type} (v : β) (st : Site) : okUnless v (some st) = panic st := rfl

theorem okUnless_eq_ok {β : Type} {v w : β} {o : Option Site} : okUnless v o = ok w ↔ o = none ∧ v = w := by
  cases o <;> simp

end Res

theorem retrieveThresholds_eq {α : Type} (parse : Bytes → Option α) (tags : List Bytes) (limit : Nat) (tag : Bytes)
    (h : findTag histPrefix tags = some tag) :
    retrieveThresholds parse tags limit =
      some (((splitOn histSep (tag.drop histPrefix.length)).filterMap parse).take limit) := by
  simp only [retrieveThresholds, h]
  exact congrArg some ((congrArg (List.take · _) (Nat.min_comm ..)).trans List.take_eq_take_min.symm)

theorem idx_eq_ok {β : Type} (st : Site) (l : List β) (i : Int) (j : Nat) (hj : j < l.length) (hi : i = j) :
    idx st l i = .ok l[j] := by
  subst hi
  simp [idx, hj]

theorem idx_eq_panic {β : Type} (st : Site) (l : List β) (i : Int) (h : i < 0 ∨ (l.length : Int) ≤ i) :
    idx st l i = .panic st := by
  rcases h with h | h
  · simp [idx, h]
  · simp [idx, List.getElem?_eq_none (by omega : l.length ≤ i.toNat)]

theorem idx_of_lt {β : Type} (s : Site) (l : List β) (i : Int) (h0 : 0 ≤ i) (h1 : i.toNat < l.length) :
    idx s l i = .ok l[i.toNat] :=
  idx_eq_ok s l i i.toNat h1 (Int.toNat_of_nonneg h0).symm

def natRank (p : Int) (n : Nat) : Nat := (2 * p.natAbs * n + 100) / 200

theorem natRank_le (p : Int) (n : Nat) (hp : p.natAbs ≤ 100) : natRank p n ≤ n := by
  have : 2 * p.natAbs * n ≤ 200 * n := Nat.mul_le_mul_right n (by omega)
  unfold natRank
  omega

/-- the rank the property speaks about -/
def specRank (p : Int) (n : Nat) : Nat := if n ≤ 1 then n else natRank p n

theorem specRank_le (p : Int) (n : Nat) (hp : p.natAbs ≤ 100) : specRank p n ≤ n := by
  unfold specRank; split
  · exact Nat.le_refl _
  · exact natRank_le p n hp

theorem mem_dedupInt {p : Int} {ps : List Int} (h : p ∈ dedupInt ps) : p ∈ ps := by
  induction ps with
  | nil => simp [dedupInt] at h
  | cons q qs ih =>
    simp only [dedupInt, List.mem_cons, List.mem_filter] at h
    rcases h with rfl | ⟨h, _⟩
    · simp
    · simp [ih h]

section
variable {α : Type} [Num α]

theorem insertSorted_perm (x : α) (l : List α) : (insertSorted x l).Perm (x :: l) := by
  induction l with
  | nil => simp [insertSorted]
  | cons y ys ih =>
    simp only [insertSorted]
    split
    · exact List.Perm.refl _
    · exact (List.Perm.cons y ih).trans (List.Perm.swap x y ys)

theorem isort_perm (l : List α) : (isort l).Perm l := by
  induction l with
  | nil => simp [isort]
  | cons x xs ih => exact (insertSorted_perm x _).trans (List.Perm.cons x ih)

theorem isort_length (l : List α) : (isort l).length = l.length := (isort_perm l).length_eq

theorem isort_ne_nil {l : List α} (h : l ≠ []) : isort l ≠ [] :=
  fun h' => h (h' ▸ isort_perm l).nil_eq.symm

theorem cumFrom_length (f : α → α) (acc : α) (l : List α) : (cumFrom f acc l).length = l.length := by
  induction l generalizing acc with
  | nil => rfl
  | cons x xs ih => simp [cumFrom, ih]

theorem cumul_length (f : α → α) (l : List α) : (cumul f l).length = l.length := by
  cases l <;> simp [cumul, cumFrom_length]

theorem histInsert0_eq_set (b : Bound α) (h : Hist α) : histInsert0 b h = histSet b 0 h := by
  induction h with
  | nil => rfl
  | cons e t ih => simp only [histInsert0, histSet, ih]

theorem foldl_histCountValue (vals : List α) (h : Hist α) :
    vals.foldl (fun h v => histCountValue v h) h =
      h.map (fun e => (e.1, e.2 + vals.countP (fun v => leBound v e.1))) := by
  induction vals generalizing h with
  | nil => simp
  | cons v vs ih =>
    rw [List.foldl_cons, ih]
    simp only [histCountValue, List.map_map]
    apply List.map_congr_left
    intro e _
    simp only [Function.comp]
    by_cases hle : leBound v e.1 = true
    · simp [hle]; omega
    · simp [hle]

theorem latencyHistogram_limit0 (parse : Bytes → Option α) (tags : List Bytes) (vals : List α) :
    latencyHistogram parse tags vals 0 = some [] := by
  simp [latencyHistogram, emptyHistogram]

end

section
variable {α : Type} [LinearOrder α]

theorem sorted_getElem_le {s : List α} (hs : s.Pairwise (· ≤ ·)) {i j : Nat} (hij : i ≤ j) (hj : j < s.length) :
    s[i]'(by omega) ≤ s[j] := by
  rcases Nat.lt_or_eq_of_le hij with h | h
  · exact (List.pairwise_iff_getElem.mp hs) i j (by omega) hj h
  · subst h; exact le_refl _

theorem sorted_take_le_boundary {s : List α} (hs : s.Pairwise (· ≤ ·)) (k : Nat) (hk1 : 1 ≤ k) (hk : k ≤ s.length) :
    ∀ x ∈ s.take k, x ≤ s[k - 1]'(by omega) := by
  intro x hx
  obtain ⟨i, hi, rfl⟩ := List.mem_iff_getElem.mp hx
  simp only [List.length_take] at hi
  rw [List.getElem_take]
  exact sorted_getElem_le hs (by omega) (by omega)

theorem sorted_boundary_le_drop {s : List α} (hs : s.Pairwise (· ≤ ·)) (m : Nat) (hm : m < s.length) :
    ∀ x ∈ s.drop m, s[m] ≤ x := by
  intro x hx
  obtain ⟨i, hi, rfl⟩ := List.mem_iff_getElem.mp hx
  simp only [List.length_drop] at hi
  rw [List.getElem_drop]
  exact sorted_getElem_le hs (by omega) (by omega)

end

section
variable {α : Type} [Field α]

theorem sum_drop_eq (l : List α) (i : Nat) : (l.drop i).sum = l.sum - (l.take i).sum :=
  eq_sub_of_add_eq' (List.sum_take_add_sum_drop l i)

/-- what the property says one threshold reports, on the ascending list `s` -/
def specPct (s : List α) (p : Int) : Option (PctVals α) :=
  let n := s.length
  let k := specRank p n
  if k = 0 then none else
  let part := if p > 0 then s.take k else s.drop (n - k)
  some { k := (k : Int), mean := part.sum / (k : α), sum := part.sum, sumSq := (part.map (fun x => x * x)).sum,
         boundary := if p > 0 then s[k - 1]?.getD 0 else s[n - k]?.getD 0 }

theorem specPct_zero (s : List α) {p : Int} (h : specRank p s.length = 0) : specPct s p = none := by
  simp only [specPct, h, if_true]

theorem specPct_pos (s : List α) {p : Int} (hp : p > 0) {k : Nat} (hk : specRank p s.length = k) (hk0 : k ≠ 0) :
    specPct s p = some
      { k := k, mean := (s.take k).sum / k, sum := (s.take k).sum,
        sumSq := ((s.take k).map (fun x => x * x)).sum, boundary := (s[k - 1]?.getD 0) } := by
  simp only [specPct, hk, hk0, hp, if_true, if_false]

theorem specPct_nonpos (s : List α) {p : Int} (hp : ¬ p > 0) {k : Nat} (hk : specRank p s.length = k) (hk0 : k ≠ 0) :
    specPct s p = some
      { k := k, mean := (s.drop (s.length - k)).sum / k, sum := (s.drop (s.length - k)).sum,
        sumSq := ((s.drop (s.length - k)).map (fun x => x * x)).sum, boundary := (s[s.length - k]?.getD 0) } := by
  simp only [specPct, hk, hk0, hp, if_false]

end

/-- `sqrt` is left arbitrary: nothing is assumed about it -/
class HasSqrt (α : Type) where
  sqrt : α → α

section
variable {α : Type} [Field α] [LinearOrder α] [IsStrictOrderedRing α] [FloorRing α] [HasSqrt α]

-- The lemmas `num_add` … `sq_def` below take `[IsStrictOrderedRing α]`, which `exactNum` does not need, and they hold by
-- `rfl`: `simp` uses them without leaving a trace in the proof, so the linter takes the argument for unused in every lemma
-- of this section that needs it only for them.
set_option linter.unusedSectionVars false

instance exactNum : Num α where
  add a b := a + b
  sub a b := a - b
  mul a b := a * b
  div a b := a / b
  ofNat n := (n : α)
  ofInt i := (i : α)
  lt a b := decide (a < b)
  le a b := decide (a ≤ b)
  beq a b := decide (a = b)
  floor x := ((⌊x⌋ : Int) : α)
  toInt x := if 0 ≤ x then ⌊x⌋ else ⌈x⌉
  sqrt := HasSqrt.sqrt
  abs x := |x|
  isNaN _ := false
  isPosInf _ := false

@[simp] theorem num_add (a b : α) : Num.add a b = a + b := rfl
@[simp] theorem num_sub (a b : α) : Num.sub a b = a - b := rfl
@[simp] theorem num_mul (a b : α) : Num.mul a b = a * b := rfl
@[simp] theorem num_div (a b : α) : Num.div a b = a / b := rfl
@[simp] theorem num_ofNat (n : Nat) : (Num.ofNat n : α) = (n : α) := rfl
@[simp] theorem num_ofInt (n : Int) : (Num.ofInt n : α) = (n : α) := rfl
@[simp] theorem num_le (a b : α) : Num.le a b = decide (a ≤ b) := rfl
@[simp] theorem num_lt (a b : α) : Num.lt a b = decide (a < b) := rfl
@[simp] theorem num_beq (a b : α) : Num.beq a b = decide (a = b) := rfl
@[simp] theorem num_floor (a : α) : Num.floor a = ((⌊a⌋ : Int) : α) := rfl
@[simp] theorem num_abs (a : α) : Num.abs a = |a| := rfl
@[simp] theorem num_sqrt (a : α) : Num.sqrt a = HasSqrt.sqrt a := rfl
@[simp] theorem num_isNaN (a : α) : Num.isNaN a = false := rfl
@[simp] theorem num_isPosInf (a : α) : Num.isPosInf a = false := rfl
theorem num_toInt (a : α) : Num.toInt a = if 0 ≤ a then ⌊a⌋ else ⌈a⌉ := rfl
@[simp] theorem sq_eq (x : α) : sq x = x * x := rfl
theorem sq_def : (sq : α → α) = fun x => x * x := rfl
@[simp] theorem zero_eq : (zero : α) = 0 := by simp [zero]
@[simp] theorem half_eq : (half : α) = 1 / 2 := by simp [half]

@[simp] theorem num_toInt_intCast (z : Int) : Num.toInt ((z : Int) : α) = z := by
  rw [num_toInt]; split <;> simp

theorem toInt_round (x : α) : Num.toInt (round x) = ⌊x + 1 / 2⌋ := by
  simp [round]

theorem rank_eq (p : Int) (n : Nat) : rank α p n = (natRank p n : Int) := by
  unfold rank
  rw [toInt_round]
  simp only [num_mul, num_div, num_abs, num_ofInt, num_ofNat]
  have h1 : |(p : α)| = ((p.natAbs : Nat) : α) := by
    rw [← Int.cast_abs, Int.abs_eq_natAbs]; simp
  rw [h1]
  have h2 : ((p.natAbs : Nat) : α) / ((100 : Nat) : α) * (n : α) + 1 / 2 =
      (((2 * p.natAbs * n + 100 : Nat) : Int) : α) / ((200 : Nat) : α) := by
    push_cast; rw [h1]; ring
  rw [h2, Int.floor_div_natCast, Int.floor_intCast, natRank]
  rfl

theorem insertSorted_sorted (x : α) (l : List α) (h : l.Pairwise (· ≤ ·)) :
    (insertSorted x l).Pairwise (· ≤ ·) := by
  induction l with
  | nil => exact List.pairwise_singleton _ _
  | cons y ys ih =>
    obtain ⟨hy, hys⟩ := List.pairwise_cons.mp h
    rw [insertSorted]
    split
    · next hxy =>
      have hxy : x ≤ y := of_decide_eq_true hxy
      exact List.pairwise_cons.mpr ⟨List.forall_mem_cons.mpr ⟨hxy, fun z hz => le_trans hxy (hy z hz)⟩, h⟩
    · next hxy =>
      have hyx : y ≤ x := le_of_not_ge fun hxy' => hxy (decide_eq_true hxy')
      refine List.pairwise_cons.mpr ⟨fun z hz => ?_, ih hys⟩
      rcases List.mem_cons.mp ((insertSorted_perm x ys).mem_iff.mp hz) with rfl | hz
      exacts [hyx, hy z hz]

theorem isort_sorted (l : List α) : (isort l).Pairwise (· ≤ ·) := by
  induction l with
  | nil => simp [isort]
  | cons x xs ih => exact insertSorted_sorted x _ ih

theorem isort_eq_of_perm {l l' : List α} (h : l.Perm l') : isort l = isort l' := by
  apply List.Perm.eq_of_pairwise (le := (· ≤ ·))
  · intro a b _ _ hab hba; exact le_antisymm hab hba
  · exact isort_sorted l
  · exact isort_sorted l'
  · exact (isort_perm l).trans (h.trans (isort_perm l').symm)

theorem cumFrom_getElem? (f : α → α) (acc : α) (l : List α) (i : Nat) (hi : i < l.length) :
    (cumFrom f acc l)[i]? = some (acc + ((l.take (i + 1)).map f).sum) := by
  induction l generalizing acc i with
  | nil => cases hi
  | cons x xs ih =>
    cases i with
    | zero => simp [cumFrom, add_comm]
    | succ j =>
      rw [cumFrom, List.getElem?_cons_succ, ih _ j (Nat.lt_of_succ_lt_succ hi), List.take_succ_cons, List.map_cons,
        List.sum_cons, num_add]
      congr 1; ring

theorem sumOfDiffs_eq (m : α) (l : List α) :
    sumOfDiffs m l = (l.map (fun x => (x - m) * (x - m))).sum := by
  rw [List.sum_eq_foldl, List.foldl_map, sumOfDiffs, zero_eq]; rfl

theorem map_take_sum_full (f : α → α) (l : List α) : ((l.take l.length).map f).sum = (l.map f).sum := by
  simp

theorem cumul_eq_cumFrom (f : α → α) (l : List α) : cumul f l = cumFrom f 0 l := by
  cases l with
  | nil => rfl
  | cons x xs => simp [cumul, cumFrom]

theorem cumul_getElem (f : α → α) (l : List α) (i : Nat) (hi : i < (cumul f l).length) :
    (cumul f l)[i] = ((l.take (i + 1)).map f).sum := by
  apply Option.some.inj
  rw [← List.getElem?_eq_getElem hi, cumul_eq_cumFrom, cumFrom_getElem? f 0 l i (by rwa [cumul_length] at hi), zero_add]

theorem idx_cumul (st : Site) (f : α → α) (l : List α) (i : Int) (j : Nat) (h1 : 1 ≤ j) (h2 : j ≤ l.length)
    (hi : i = j - 1) : idx st (cumul f l) i = .ok ((l.take j).map f).sum := by
  rw [idx_eq_ok st _ i (j - 1) (by rw [cumul_length]; omega) (by omega), cumul_getElem, Nat.sub_add_cancel h1]

/-- the site at which the body of the percentile loop panics on `n` values, if any: a rank beyond `n`
(only for a threshold of magnitude above 100), or D4: a non-positive threshold whose rank is `n` makes the
pinned tree (`fx = false`) read `cumulativeValues[-1]` -/
def pctPanic (fx : Bool) (n : Nat) (p : Int) : Option Site :=
  if n < specRank p n then some (if p > 0 then .valuesUpper else .valuesLower)
  else if fx = false ∧ p ≤ 0 ∧ 1 < n ∧ specRank p n = n then some .cumulLower
  else none

theorem pctVals_eq (fx : Bool) (s : List α) (minV maxV : α) (p : Int)
    (hmin : s[0]? = some minV) (hmax : s[s.length - 1]? = some maxV) :
    pctVals fx s (cumul (fun x => x) s) (cumul sq s) minV maxV p =
      .okUnless (specPct s p) (pctPanic fx s.length p) := by
  simp only [pctPanic, apply_ite (Res.okUnless _), Res.okUnless_some, Res.okUnless_none]
  unfold pctVals
  -- both sides are nested `if`s now; each `if_pos` / `if_neg` below settles the next one, on the left (`pctVals`) or on
  -- the right (`pctPanic`)
  by_cases hn : s.length ≤ 1
  · obtain ⟨x, rfl⟩ : ∃ x, s = [x] :=
      List.length_eq_one_iff.mp (Nat.le_antisymm hn (List.getElem?_eq_some_iff.mp hmin).1)
    cases hmin; cases hmax; simp [specPct, specRank]
  · have hsr : specRank p s.length = natRank p s.length := if_neg hn
    rw [if_neg hn, rank_eq, hsr]
    generalize natRank p s.length = K at hsr
    by_cases hK0 : K = 0
    · rw [if_pos (by omega), if_neg (by omega), if_neg (by omega)]
      simp [specPct, hsr, hK0]
    · have hK1 : 1 ≤ K := Nat.one_le_iff_ne_zero.mpr hK0
      rw [if_neg (by omega : ¬ (K : Int) = 0)]
      by_cases hKn : K ≤ s.length
      · rw [if_neg (by omega : ¬ s.length < K)]
        by_cases hp : p > 0
        · have hlt : K - 1 < s.length := by omega
          rw [if_pos hp, idx_eq_ok _ s _ (K - 1) hlt (by omega), idx_cumul _ _ s _ K hK1 hKn rfl,
            idx_cumul _ _ s _ K hK1 hKn rfl, if_neg (by omega), specPct_pos s hp hsr hK0,
            List.getElem?_eq_getElem hlt, List.map_id']
          simp only [Res.bind_ok, Res.pure_eq, num_div, num_ofInt, Int.cast_natCast, Option.getD_some, sq_def]
        · have hlt : s.length - K < s.length := by omega
          have hpos : 1 ≤ s.length := by omega
          rw [if_neg hp, idx_eq_ok _ s _ (s.length - K) hlt (by omega),
            idx_cumul _ _ s _ s.length hpos (Nat.le_refl _) rfl,
            idx_cumul _ _ s _ s.length hpos (Nat.le_refl _) rfl, specPct_nonpos s hp hsr hK0,
            List.getElem?_eq_getElem hlt]
          by_cases hKe : K = s.length
          · -- nothing lies below the `K` highest values: the pinned tree reads index `-1` (D4)
            have hneg : (s.length : Int) - K - 1 < 0 := by omega
            cases fx
            · rw [idx_eq_panic .cumulLower _ _ (Or.inl hneg), if_pos ⟨rfl, by omega, by omega, hKe⟩]; rfl
            · simp [hKe, sq_def]
          · have hnn : ¬ (s.length : Int) - K - 1 < 0 := by omega
            have h1 : 1 ≤ s.length - K := by omega
            have hi : (s.length : Int) - K - 1 = ((s.length - K : Nat) : Int) - 1 := by omega
            rw [idx_cumul _ _ s _ (s.length - K) h1 (Nat.sub_le _ _) hi,
              idx_cumul _ _ s _ (s.length - K) h1 (Nat.sub_le _ _) hi, if_neg (by omega)]
            simp [hnn, sq_def, sum_drop_eq]
      · rw [if_pos (by omega : s.length < K)]
        by_cases hp : p > 0
        · rw [if_pos hp, if_pos hp, idx_eq_panic _ s _ (by omega)]; rfl
        · rw [if_neg hp, if_neg hp, idx_eq_panic _ s _ (by omega)]; rfl

theorem pctVals_spec (fx : Bool) (s : List α) (minV maxV : α) (p : Int)
    (hmin : s[0]? = some minV) (hmax : s[s.length - 1]? = some maxV) (r : Option (PctVals α))
    (h : pctVals fx s (cumul (fun x => x) s) (cumul sq s) minV maxV p = .ok r) : r = specPct s p := by
  rw [pctVals_eq fx s minV maxV p hmin hmax] at h
  exact (Res.okUnless_eq_ok.mp h).2.symm

theorem pctValsLoop_eq (fx : Bool) (s : List α) (minV maxV : α)
    (hmin : s[0]? = some minV) (hmax : s[s.length - 1]? = some maxV) (ps : List Int) :
    pctValsLoop fx s (cumul (fun x => x) s) (cumul sq s) minV maxV ps =
      .okUnless (ps.map (fun p => (p, specPct s p))) (ps.findSome? (pctPanic fx s.length)) := by
  induction ps with
  | nil => rfl
  | cons p ps ih =>
    rw [pctValsLoop, pctVals_eq fx s minV maxV p hmin hmax, ih, List.findSome?_cons]
    cases pctPanic fx s.length p with
    | some st => rfl
    | none => cases List.findSome? (pctPanic fx s.length) ps <;> rfl

def specMedian (s : List α) : α :=
  let n := s.length
  if n % 2 = 0 then (s[n / 2 - 1]?.getD 0 + s[n / 2]?.getD 0) / 2 else s[n / 2]?.getD 0

/-- what `Flush` must leave in a plain timer whose sorted values are `s` (`s ≠ []`) -/
def specFlush (cfg : AggCfg) (secs : α) (t : ATimer α) (s : List α) : ATimer α :=
  let n : α := (s.length : α)
  let mean := s.sum / n
  { t with
    values := s, min := s[0]?.getD 0, max := s[s.length - 1]?.getD 0,
    percentiles := t.percentiles ++ pctTable cfg.mask ((dedupInt cfg.pcts).map (fun p => (p, specPct s p))),
    median := specMedian s, mean := mean,
    stdDev := HasSqrt.sqrt ((s.map (fun x => (x - mean) * (x - mean))).sum / n),
    sum := s.sum, sumSquares := (s.map (fun x => x * x)).sum,
    count := ⌊t.sampledCount + 1 / 2⌋, perSecond := t.sampledCount / secs }

theorem flushSorted_eq (fx : Bool) (cfg : AggCfg) (secs : α) (t : ATimer α) (s : List α) (hs : s ≠ []) :
    flushSorted fx cfg secs t s =
      .okUnless (specFlush cfg secs t s) ((dedupInt cfg.pcts).findSome? (pctPanic fx s.length)) := by
  have hpos : 0 < s.length := List.length_pos_iff.mpr hs
  have hl1 : s.length - 1 < s.length := by omega
  have hl3 : s.length / 2 < s.length := by omega
  have hmed : (if s.length % 2 = 0 then do
        let a ← idx .median s (((s.length / 2 : Nat) : Int) - 1)
        let b ← idx .median s (s.length / 2 : Nat)
        pure (Num.div (Num.add a b) (Num.ofNat 2))
      else idx .median s (s.length / 2 : Nat)) = .ok (specMedian s) := by
    by_cases hpar : s.length % 2 = 0
    · have hl2 : s.length / 2 - 1 < s.length := by omega
      rw [if_pos hpar, idx_eq_ok _ s _ (s.length / 2 - 1) hl2 (by omega), idx_eq_ok _ s _ (s.length / 2) hl3 rfl]
      simp [specMedian, hpar, List.getElem?_eq_getElem hl3, List.getElem?_eq_getElem hl2]
    · rw [if_neg hpar, idx_eq_ok _ s _ (s.length / 2) hl3 rfl]
      simp [specMedian, hpar, List.getElem?_eq_getElem hl3]
  simp only [flushSorted, idx_eq_ok _ s 0 0 hpos rfl, idx_eq_ok _ s ((s.length : Int) - 1) (s.length - 1) hl1 (by omega), hmed,
    Res.bind_ok, pctValsLoop_eq fx s _ _ (List.getElem?_eq_getElem hpos) (List.getElem?_eq_getElem hl1)]
  cases (dedupInt cfg.pcts).findSome? (pctPanic fx s.length) with
  | some st => rfl
  | none =>
    simp only [Res.okUnless_none, Res.bind_ok, Res.pure_eq, idx_cumul _ _ s _ s.length hpos (Nat.le_refl _) rfl, specFlush,
      List.getElem?_eq_getElem hpos, List.getElem?_eq_getElem hl1, Option.getD_some, List.take_length,
      List.map_id', sumOfDiffs_eq, toInt_round, num_div, num_ofNat, sq_def, num_sqrt]

theorem flushTimerWith_eq (fx : Bool) (parse : Bytes → Option α) (cfg : AggCfg) (secs : α) (t : ATimer α) :
    flushTimerWith fx parse cfg secs t =
      if hasHistogramTag t.tags then .ok { t with histogram := latencyHistogram parse t.tags t.values cfg.limit }
      else if t.values = [] then .ok { t with count := 0, sampledCount := 0, perSecond := 0 }
      else .okUnless (specFlush cfg secs t (isort t.values)) ((dedupInt cfg.pcts).findSome? (pctPanic fx t.values.length)) := by
  rw [flushTimerWith]
  split
  · rfl
  · split
    · next hv => rw [if_pos hv, zero_eq]
    · next x xs hv =>
      have hne : t.values ≠ [] := hv ▸ List.cons_ne_nil x xs
      rw [if_neg hne, ← isort_length t.values, ← flushSorted_eq fx cfg secs t _ (isort_ne_nil hne), hv]

theorem flushTimerWith_plain (fx : Bool) (parse : Bytes → Option α) (cfg : AggCfg) (secs : α) (t out : ATimer α)
    (hh : hasHistogramTag t.tags = false) (hne : t.values ≠ [])
    (h : flushTimerWith fx parse cfg secs t = .ok out) : out = specFlush cfg secs t (isort t.values) := by
  rw [flushTimerWith_eq, if_neg (by simp [hh]), if_neg hne] at h
  exact (Res.okUnless_eq_ok.mp h).2.symm

/-- the configurations C04 is about.  gostatsd checks no range at start-up; beyond 100 the rank can exceed the number of
values (`pctPanic`). -/
def AggCfg.Valid (cfg : AggCfg) : Prop := ∀ p ∈ cfg.pcts, p.natAbs ≤ 100

theorem pctPanic_valid (n : Nat) {p : Int} (hp : p.natAbs ≤ 100) : pctPanic true n p = none := by
  simp [pctPanic, Nat.not_lt.mpr (specRank_le p n hp)]

theorem flushTimerWith_total (parse : Bytes → Option α) (cfg : AggCfg) (hc : cfg.Valid) (secs : α) (t : ATimer α) :
    ∃ out, flushTimerWith true parse cfg secs t = .ok out := by
  rw [flushTimerWith_eq, List.findSome?_eq_none_iff.mpr fun p hp => pctPanic_valid _ (hc p (mem_dedupInt hp))]
  split
  · exact ⟨_, rfl⟩
  · split <;> exact ⟨_, rfl⟩

theorem bound_beq_iff (a b : Bound α) : Bound.beq a b = true ↔ a = b := by
  cases a <;> cases b <;> simp [Bound.beq]

instance boundDecEq : DecidableEq (Bound α) := fun a b => decidable_of_iff _ (bound_beq_iff a b)

@[simp] theorem mkBound_eq (b : α) : mkBound b = Bound.fin b := by simp [mkBound]

def histKeys (h : Hist α) : List (Bound α) := h.map Prod.fst

theorem histLookup_eq (b : Bound α) (h : Hist α) : histLookup b h = AList.lookup b h := by
  induction h with
  | nil => rfl
  | cons e t ih =>
    simp only [histLookup, AList.lookup, ih, bound_beq_iff]

theorem histSet_eq (b : Bound α) (n : Nat) (h : Hist α) : histSet b n h = AList.upsert b (fun _ => n) h := by
  induction h with
  | nil => rfl
  | cons e t ih =>
    simp only [histSet, AList.upsert, ih, bound_beq_iff]
    split
    · next hk => rw [hk]
    · rfl

theorem mem_histKeys_set (b : Bound α) (n : Nat) (h : Hist α) : b ∈ histKeys (histSet b n h) := by
  rw [histSet_eq]
  exact (AList.mem_keys_upsert b _ h b).mpr (Or.inl rfl)

theorem mem_histKeys_iff (b : Bound α) (h : Hist α) : b ∈ histKeys h ↔ (histLookup b h).isSome = true := by
  rw [histLookup_eq]
  exact AList.lookup_isSome_iff_mem_keys.symm

theorem emptyHistogram_limit0 (parse : Bytes → Option α) (tags : List Bytes) : emptyHistogram parse tags 0 = some [] := by
  simp [emptyHistogram]

theorem latencyHistogram_eq (parse : Bytes → Option α) (tags : List Bytes) (vals : List α) (limit : Nat) :
    latencyHistogram parse tags vals limit = (emptyHistogram parse tags limit).map fun E =>
      if E.isEmpty then [] else
        AList.upsert .inf (fun _ => vals.length) (AList.mapVals (fun b c => c + vals.countP (fun v => leBound v b)) E) := by
  unfold latencyHistogram
  cases emptyHistogram parse tags limit with
  | none => rfl
  | some E =>
    cases E with
    | nil => rfl
    | cons e t => simp only [foldl_histCountValue, histSet_eq]; rfl

theorem emptyHistogram_eq (parse : Bytes → Option α) (tags : List Bytes) (limit : Nat) (hl : limit ≠ 0) (ths : List α)
    (ht : retrieveThresholds parse tags limit = some ths) :
    emptyHistogram parse tags limit =
      some (AList.upsert .inf (fun _ => 0) ((ths.map Bound.fin).foldl (fun h b => AList.upsert b (fun _ => 0) h) [])) := by
  simp only [emptyHistogram, hl, if_false, ht, histInsert0_eq_set, histSet_eq, mkBound_eq, List.foldl_map]

theorem latencyHistogram_buckets (parse : Bytes → Option α) (tags : List Bytes) (vals : List α) (limit : Nat)
    (hl : limit ≠ 0) (ths : List α) (ht : retrieveThresholds parse tags limit = some ths) :
    ∃ H, latencyHistogram parse tags vals limit = some H ∧ (histKeys H).Nodup ∧
      histLookup .inf H = some vals.length ∧
      (∀ b ∈ ths, histLookup (.fin b) H = some (vals.countP (fun v => decide (v ≤ b)))) ∧
      (∀ b, b ∉ ths → histLookup (.fin b) H = none) := by
  have hfin (b : α) : Bound.fin b ∈ ths.map Bound.fin ↔ b ∈ ths := by simp
  refine ⟨_, by rw [latencyHistogram_eq, emptyHistogram_eq parse tags limit hl ths ht, Option.map_some,
    if_neg (by simpa using AList.upsert_ne_nil (Bound.inf : Bound α) (fun _ => 0) _)],
    ?nodup, ?inf, fun b hb => ?threshold, fun b hb => ?other⟩
  case nodup =>
    exact AList.nodupKeys_upsert _ _ (AList.nodupKeys_mapVals _ (AList.nodupKeys_upsert _ _
      (List.foldlRecOn _ _ (motive := AList.NodupKeys) List.nodup_nil fun h hh b _ => AList.nodupKeys_upsert b _ hh)))
  case inf => rw [histLookup_eq, AList.lookup_upsert, if_pos rfl]
  case threshold =>
    rw [histLookup_eq, AList.lookup_upsert, if_neg (by simp), AList.lookup_mapVals, AList.lookup_upsert, if_neg (by simp),
      AList.lookup_foldl_upsert_const, if_pos ((hfin b).mpr hb)]
    simp [leBound]
  case other =>
    rw [histLookup_eq, AList.lookup_upsert, if_neg (by simp), AList.lookup_mapVals, AList.lookup_upsert, if_neg (by simp),
      AList.lookup_foldl_upsert_const, if_neg (mt (hfin b).mp hb)]
    rfl

inductive PctKind | count | mean | sum | sumSquares | upper | lower
  deriving DecidableEq

def Mask.disabledPct (m : Mask) : PctKind → Bool
  | .count => m.countPct | .mean => m.meanPct | .sum => m.sumPct
  | .sumSquares => m.sumSquaresPct | .upper => m.upperPct | .lower => m.lowerPct

def pctEntriesAll (p : Int) (v : PctVals α) : List (PctKind × List Char × α) :=
  [(.count, pctName "count_" p, (v.k : α)), (.mean, pctName "mean_" p, v.mean), (.sum, pctName "sum_" p, v.sum),
   (.sumSquares, pctName "sum_squares_" p, v.sumSq),
   (if p > 0 then (.upper, pctName "upper_" p, v.boundary) else (.lower, pctName "lower_" p, v.boundary))]

theorem map_filter_cons {β γ : Type} (q : β → Bool) (g : β → γ) (x : β) (l : List β) :
    ((x :: l).filter q).map g = (if q x then [g x] else []) ++ (l.filter q).map g := by
  cases h : q x <;> simp [h]

theorem pctEntries_eq_filter (m : Mask) (p : Int) (v : PctVals α) :
    pctEntries m p v = ((pctEntriesAll p v).filter (fun e => !m.disabledPct e.1)).map (·.2) := by
  unfold pctEntries pctEntriesAll
  by_cases hp : p > 0 <;>
    simp only [hp, if_true, if_false, map_filter_cons, Mask.disabledPct, List.filter_nil, List.map_nil, List.append_nil,
      num_ofInt, List.append_assoc]

end
end Gsd

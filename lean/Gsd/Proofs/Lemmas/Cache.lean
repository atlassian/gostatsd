import Gsd.Model.Cache
import Gsd.Proofs.Lemmas.AList
/-! The instance cache (C12): `step` as a relation (`Step`), the invariant `Inv`, kept by every
step and hence by every schedule. -/
namespace Gsd.Cache
open Gsd Gsd.AList

variable {σ ι : Type} [DecidableEq σ]

theorem takeOut_perm {p ss r : List σ} (h : takeOut p ss = some r) : p.Perm (ss ++ r) := by
  induction ss generalizing p with
  | nil => cases h; exact .refl _
  | cons x xs ih =>
    simp only [takeOut] at h
    split at h
    · next hx => exact (List.perm_cons_erase hx).trans ((ih h).cons x)
    · cases h

theorem takeOut_singleton_of_mem {p : List σ} {x : σ} (h : x ∈ p) : takeOut p [x] = some (p.erase x) := by
  simp [takeOut, h]

theorem extract_perm {α : Type} {k : Nat} {l r : List α} {i : α} (h : extract k l = some (i, r)) : l.Perm (i :: r) := by
  induction l generalizing k r with
  | nil => cases k <;> cases h
  | cons x xs ih =>
    cases k with
    | zero => cases h; exact .refl _
    | succ k =>
      simp only [extract, Option.map_eq_some_iff, Prod.mk.injEq] at h
      obtain ⟨⟨i', r'⟩, hr, rfl, rfl⟩ := h
      exact ((ih hr).cons x).trans (.swap _ _ _)

theorem extract_zero_cons {α : Type} (x : α) (xs : List α) : extract 0 (x :: xs) = some (x, xs) := rfl

theorem countP_ip_map (ss : List σ) (o : σ → Option ι) (s : σ) :
    (ss.map (fun x => ({ ip := x, inst := o x } : Info σ ι))).countP (fun i => decide (i.ip = s)) = ss.count s := by
  simp only [List.countP_map, List.count_eq_countP, Function.comp_def]; rfl

/-- The two refresh counters are left as `handle` computes them: no invariant speaks of them. -/
theorem handle_eq (cfg : Config) (now : Int) (i : Info σ ι) (st : State σ ι) :
    handle cfg now i st =
      { st with cache := upsert i.ip (newHolder cfg now i.inst) st.cache, toReturn := st.toReturn ++ [i],
                pos := st.pos + ((if isPos (i.ip, newHolder cfg now i.inst (lookup i.ip st.cache)) then 1 else 0 : Nat) : Int)
                  - (((lookup i.ip st.cache).elim 0 fun v => if isPos (i.ip, v) then 1 else 0 : Nat) : Int),
                neg := st.neg + ((if isNeg (i.ip, newHolder cfg now i.inst (lookup i.ip st.cache)) then 1 else 0 : Nat) : Int)
                  - (((lookup i.ip st.cache).elim 0 fun v => if isNeg (i.ip, v) then 1 else 0 : Nat) : Int),
                refPos := (handle cfg now i st).refPos, refNeg := (handle cfg now i st).refNeg } := by
  unfold handle
  cases hl : lookup i.ip st.cache with
  | none => cases hi : i.inst <;> simp [isPos, isNeg, newHolder]
  | some cur =>
    cases hi : i.inst with
    | none => cases hc : cur.inst <;> simp [isPos, isNeg, newHolder, hc]
    | some v => cases hc : cur.inst <;> simp [isPos, isNeg, newHolder, hc]

theorem handle_cache (cfg : Config) (now : Int) (i : Info σ ι) (st : State σ ι) :
    (handle cfg now i st).cache = upsert i.ip (newHolder cfg now i.inst) st.cache ∧
    (handle cfg now i st).answers = st.answers := by
  rw [handle_eq]; exact ⟨rfl, rfl⟩

inductive Step (cfg : Config) (st : State σ ι) : Action σ ι → State σ ι → Prop
  | submit (s : σ) : Step cfg st (.submit s) { st with pending := st.pending ++ [s], requested := st.requested ++ [s] }
  | batch {ss rest} (o : σ → Option ι) (e : Bool) (hsz : ¬(ss.isEmpty || decide (cfg.maxBatch < ss.length)) = true)
      (h : takeOut st.pending ss = some rest) :
      Step cfg st (.batch ss o e)
        { st with pending := rest, answers := st.answers ++ ss.map (fun s => ({ ip := s, inst := o s } : Info σ ι)),
                  queried := st.queried ++ ss,
                  emitted := st.emitted ++ ss.map (fun s => ({ ip := s, inst := o s } : Info σ ι)) }
  | handleInfo {i rest} (now : Int) (h : st.answers = i :: rest) :
      Step cfg st (.handleInfo now) (handle cfg now i { st with answers := rest })
  | deliver {k i rest} (h : extract k st.toReturn = some (i, rest)) :
      Step cfg st (.deliver k) { st with toReturn := rest, delivered := st.delivered ++ [i] }
  | peek (s : σ) (now : Int) : Step cfg st (.peek s now) (touch s now st)
  | tick (t : Int) : Step cfg st (.tick t) (tick cfg t st)

theorem Step.of_step {cfg : Config} {st st' : State σ ι} {a : Action σ ι} (h : step cfg st a = some st') :
    Step cfg st a st' := by
  cases a with
  | submit | peek | tick => cases h; constructor
  | batch ss o e =>
    simp only [step] at h
    split at h
    · cases h
    next hsz =>
      split at h <;> cases h
      next rest hto => exact .batch o e hsz hto
  | handleInfo | deliver =>
    simp only [step] at h
    split at h <;> cases h
    constructor; assumption

theorem step_cache {cfg : Config} {st st' : State σ ι} {a : Action σ ι} (h : step cfg st a = some st') :
    st'.cache = st.cache ∨
    (∃ now i rest, a = .handleInfo now ∧ st.answers = i :: rest ∧
      st'.cache = upsert i.ip (newHolder cfg now i.inst) st.cache) ∨
    (∃ s now, a = .peek s now ∧ st'.cache = (touch s now st).cache) ∨
    ∃ t, a = .tick t ∧ st'.cache = (tick cfg t st).cache := by
  cases Step.of_step h with
  | submit | batch | deliver => exact .inl rfl
  | handleInfo now ha => exact .inr (.inl ⟨now, _, _, rfl, ha, (handle_cache _ _ _ _).1⟩)
  | peek s now => exact .inr (.inr (.inl ⟨s, now, rfl, rfl⟩))
  | tick t => exact .inr (.inr (.inr ⟨t, rfl, rfl⟩))

theorem nodupKeys_step {cfg : Config} {st st' : State σ ι} {a : Action σ ι} (hn : NodupKeys st.cache)
    (h : step cfg st a = some st') : NodupKeys st'.cache := by
  rcases step_cache h with hc | ⟨_, _, _, -, -, hc⟩ | ⟨_, _, -, hc⟩ | ⟨_, -, hc⟩ <;> rw [hc]
  · exact hn
  · exact nodupKeys_upsert _ _ hn
  · simp only [touch]; exact nodupKeys_mapVals _ hn
  · simp only [tick]; exact nodupKeys_filter _ hn

theorem lookup_tick (cfg : Config) (t : Int) (st : State σ ι) (hn : NodupKeys st.cache) (s : σ) :
    lookup s (tick cfg t st).cache = (lookup s st.cache).filter (fun h => !idleOut cfg t h) :=
  lookup_filter _ _ hn

theorem peekVal_step {cfg : Config} {st st' : State σ ι} {a : Action σ ι} (h : step cfg st a = some st') (s : σ) :
    peekVal st' s = peekVal st s ∨
    (∃ t, a = .tick t ∧ (NodupKeys st.cache → peekVal st' s = none ∨ peekVal st' s = peekVal st s)) ∨
    ∃ now i rest, a = .handleInfo now ∧ st.answers = i :: rest ∧ i.ip = s ∧
      peekVal st' s = some (i.inst <|> (peekVal st s).join) := by
  unfold peekVal
  rcases step_cache h with hc | ⟨now, i, rest, rfl, ha, hc⟩ | ⟨x, now, -, hc⟩ | ⟨t, rfl, hc⟩
  · exact .inl (by rw [hc])
  · rw [hc, lookup_upsert]
    by_cases his : i.ip = s
    · refine .inr (.inr ⟨now, i, rest, rfl, ha, his, ?_⟩)
      subst his
      rw [if_pos rfl]
      cases lookup i.ip st.cache <;> cases i.inst <;> rfl
    · exact .inl (by rw [if_neg his])
  · refine .inl ?_
    rw [hc, touch, lookup_mapVals, Option.map_map]
    congr 1; funext h; simp only [Function.comp]; split <;> rfl
  · refine .inr (.inl ⟨t, rfl, fun hn => ?_⟩)
    rw [hc, lookup_tick cfg t st hn]
    cases lookup s st.cache with
    | none => exact .inl rfl
    | some h => cases hi : idleOut cfg t h <;> simp [Option.filter, hi]

theorem mem_answers_step {cfg : Config} {st st' : State σ ι} {a : Action σ ι} (h : step cfg st a = some st')
    {i : Info σ ι} (hi : i ∈ st'.answers) :
    i ∈ st.answers ∨ ∃ ss o e, a = .batch ss o e ∧ i.ip ∈ ss ∧ i.inst = o i.ip := by
  cases Step.of_step h with
  | @batch ss _ o e =>
    rcases List.mem_append.mp hi with hi | hi
    · exact .inl hi
    · obtain ⟨x, hx, rfl⟩ := List.mem_map.mp hi
      exact .inr ⟨ss, o, e, rfl, hx, rfl⟩
  | handleInfo now ha =>
    rw [(handle_cache _ _ _ _).2] at hi
    exact .inl (ha ▸ List.mem_cons_of_mem _ hi)
  | submit | deliver | peek | tick => exact .inl hi

structure Inv (st : State σ ι) : Prop where
  nodup : NodupKeys st.cache
  pos_eq : st.pos = (st.cache.countP isPos : Nat)
  neg_eq : st.neg = (st.cache.countP isNeg : Nat)
  /-- every answer `doLookup` ever sent is waiting, handled-but-not-delivered, or delivered: never lost,
  never duplicated (for every predicate on answers, hence for every source and every single answer) -/
  conserve : ∀ p : Info σ ι → Bool,
    st.emitted.countP p = st.answers.countP p + st.toReturn.countP p + st.delivered.countP p
  perSource : ∀ s : σ, st.emitted.countP (fun i => decide (i.ip = s)) = st.queried.count s
  req : ∀ s : σ, st.requested.count s = st.queried.count s + st.pending.count s

theorem inv_init : Inv (init : State σ ι) := by
  refine ⟨?_, ?_, ?_, ?_, ?_, ?_⟩ <;> simp [init]

theorem inv_handle (cfg : Config) (now : Int) (i : Info σ ι) (st : State σ ι) (rest : List (Info σ ι))
    (hst : Inv st) (ha : st.answers = i :: rest) : Inv (handle cfg now i { st with answers := rest }) := by
  rw [handle_eq]
  have cp := countP_upsert isPos i.ip (newHolder cfg now i.inst) st.cache
  have cn := countP_upsert isNeg i.ip (newHolder cfg now i.inst) st.cache
  refine ⟨nodupKeys_upsert _ _ hst.nodup, ?_, ?_, fun p => ?_, hst.perSource, hst.req⟩
  · have := hst.pos_eq; dsimp only; omega
  · have := hst.neg_eq; dsimp only; omega
  · have := hst.conserve p
    rw [ha] at this
    simp only [List.countP_cons, List.countP_append, List.countP_nil] at this ⊢
    omega

theorem inv_tick (cfg : Config) (t : Int) (st : State σ ι) (hst : Inv st) : Inv (tick cfg t st) := by
  obtain ⟨hn, hp, hg, hc, hs, hr⟩ := hst
  -- each gauge goes down by the evicted entries it counted
  have gone := fun q => List.countP_eq_countP_filter_add st.cache q (fun e : σ × Holder ι => !idleOut cfg t e.2)
  simp only [Bool.not_not] at gone
  refine ⟨nodupKeys_filter _ hn, ?_, ?_, hc, hs, fun s => ?_⟩
  · have := gone isPos; simp only [tick, hp]; omega
  · have := gone isNeg; simp only [tick, hg]; omega
  · have := hr s; simp only [tick, List.count_append]; omega

theorem inv_step (cfg : Config) (st st' : State σ ι) (a : Action σ ι) (hst : Inv st)
    (h : step cfg st a = some st') : Inv st' := by
  cases Step.of_step h with
  | submit s =>
    exact { hst with req := fun x => by have := hst.req x; simp only [List.count_append]; omega }
  | batch o e _ hto =>
    refine { hst with conserve := fun p => ?_, perSource := fun s => ?_, req := fun s => ?_ }
    · have := hst.conserve p; simp only [List.countP_append]; omega
    · have := hst.perSource s
      simp only [List.countP_append, List.count_append, countP_ip_map]; omega
    · have := hst.req s; have := (takeOut_perm hto).count_eq s
      simp only [List.count_append] at this ⊢; omega
  | handleInfo now ha => exact inv_handle cfg now _ st _ hst ha
  | deliver hex =>
    refine { hst with conserve := fun p => ?_ }
    have := hst.conserve p; have := (extract_perm hex).countP_eq p
    simp only [List.countP_append, List.countP_cons, List.countP_nil] at this ⊢; omega
  | peek s now =>
    refine { hst with nodup := nodupKeys_step hst.nodup h, pos_eq := ?_, neg_eq := ?_ }
    · simp only [touch]; rw [countP_mapVals]
      · exact hst.pos_eq
      · intro k v; simp only [isPos]; split <;> rfl
    · simp only [touch]; rw [countP_mapVals]
      · exact hst.neg_eq
      · intro k v; simp only [isNeg]; split <;> rfl
  | tick t => exact inv_tick cfg t st hst

theorem run_eq_foldlM (cfg : Config) (st : State σ ι) (acts : List (Action σ ι)) :
    run cfg st acts = acts.foldlM (step cfg) st :=
  eq_foldlM_of_rec (fun _ => rfl) (fun _ _ _ => rfl) st acts

theorem inv_run (cfg : Config) (st st' : State σ ι) (acts : List (Action σ ι)) (h0 : Inv st)
    (hr : run cfg st acts = some st') : Inv st' :=
  foldlM_inv Inv (fun s a s' hs h => inv_step cfg s s' a hs h) acts h0 (run_eq_foldlM cfg st acts ▸ hr)

theorem inv_reachable (cfg : Config) (acts : List (Action σ ι)) (st : State σ ι)
    (hr : run cfg init acts = some st) : Inv st :=
  inv_run cfg init st acts inv_init hr

end Gsd.Cache

import Gsd.Model.Lexer
import Gsd.Model.Grammar
import Gsd.Proofs.Lemmas.List
/-!
Helper lemmas about the lexer model (`Model/Lexer.lean`).  Facts about a computation in `Res` are stated with two
predicates: `Res.Ensures` (no panic, and a postcondition) and `Res.Refines` (the same result unless a bounds check fails).
`lexKeySep` and `lexValueSep` have one lemma each about a stretch free of their stop bytes, over which they only
accumulate; what they do on arbitrary bytes follows by splitting them at the first stop byte (`exists_split_first`).
-/
namespace Gsd.Lexer

@[simp] theorem Res.bind_ok {α β} (a : α) (f : α → Res β) : (Res.ok a).bind f = f a := rfl
@[simp] theorem Res.bind_err {α β} (e : Err) (f : α → Res β) : (Res.err e : Res α).bind f = .err e := rfl
@[simp] theorem Res.bind_panic {α β} (f : α → Res β) : (Res.panic : Res α).bind f = .panic := rfl

theorem Res.bind_ne_panic {α β} {x : Res α} {f : α → Res β} (hx : x ≠ .panic) (hf : ∀ a, x = .ok a → f a ≠ .panic) :
    x.bind f ≠ .panic := by
  cases x with
  | ok a => exact hf a rfl
  | err e => simp
  | panic => exact absurd rfl hx

theorem Res.bind_eq_ok {α β} {x : Res α} {f : α → Res β} {b : β} (h : x.bind f = .ok b) : ∃ a, x = .ok a ∧ f a = .ok b := by
  cases x with
  | ok a => exact ⟨a, rfl, h⟩
  | err e => simp at h
  | panic => simp at h

theorem Res.bind_ok_right {α} (x : Res α) : x.bind .ok = x := by cases x <;> rfl

theorem Res.bind_bind {α β γ} (x : Res α) (f : α → Res β) (k : β → Res γ) : (x.bind f).bind k = x.bind fun a => (f a).bind k := by
  cases x <;> rfl

theorem guard_true {α} {c : Bool} (k : Res α) (h : c = true) : guard c k = k := by simp [guard, h]

theorem guard_eq_ok {α} {c : Bool} {k : Res α} {a : α} (h : guard c k = .ok a) : k = .ok a := by
  unfold guard at h; split at h
  · exact h
  · simp at h

def Res.Ensures {α} (P : α → Prop) : Res α → Prop
  | .ok a => P a
  | .err _ => True
  | .panic => False

namespace Res.Ensures
variable {α : Type} {P : α → Prop} {x : Res α}

theorem ite {c : Prop} [Decidable c] {y : Res α} (hx : c → x.Ensures P) (hy : ¬ c → y.Ensures P) :
    (if c then x else y).Ensures P := by
  by_cases h : c
  · rw [if_pos h]; exact hx h
  · rw [if_neg h]; exact hy h

theorem bind {β} {Q : β → Prop} {z : Res β} {f : β → Res α} (hz : z.Ensures Q) (hf : ∀ b, Q b → (f b).Ensures P) :
    (z.bind f).Ensures P := by
  cases z with
  | ok b => exact hf b hz
  | err e => trivial
  | panic => exact hz

theorem imp {Q : α → Prop} (hx : x.Ensures Q) (h : ∀ a, Q a → P a) : x.Ensures P := by
  cases x with
  | ok a => exact h a hx
  | err e => trivial
  | panic => exact hx

theorem of_eq {a : α} (h : x.Ensures P) (e : x = .ok a) : P a := by subst e; exact h

theorem ne_panic (h : x.Ensures P) : x ≠ .panic := by rintro rfl; exact h

end Res.Ensures

/-- how a machine with bounds checks relates to the same machine without them, `c` being what makes the checks pass -/
def Res.Refines {α} (c : Prop) (x y : Res α) : Prop := x = y ∨ (x = .panic ∧ ¬ c)

namespace Res.Refines
variable {α : Type} {c : Prop} {x y : Res α}

theorem rfl : Refines c x x := .inl _root_.rfl

theorem guard {b : Bool} (hb : c → b = true) (h : Refines c x y) : Refines c (guard b x) y := by
  cases b with
  | true => exact h
  | false => exact .inr ⟨_root_.rfl, fun hc => by simpa using hb hc⟩

theorem ite {p : Prop} [Decidable p] {x' y' : Res α} (h1 : p → Refines c x y) (h2 : ¬ p → Refines c x' y') :
    Refines c (if p then x else x') (if p then y else y') := by
  by_cases h : p
  · rw [if_pos h, if_pos h]; exact h1 h
  · rw [if_neg h, if_neg h]; exact h2 h

theorem bind {β} {z : Res β} {f f' : β → Res α} (h : ∀ a, Refines c (f a) (f' a)) : Refines c (z.bind f) (z.bind f') := by
  cases z with
  | ok a => exact h a
  | err e => exact rfl
  | panic => exact rfl

theorem mono {c' : Prop} (h : Refines c' x y) (hc : c → c') : Refines c x y :=
  h.imp id fun ⟨e, n⟩ => ⟨e, fun h => n (hc h)⟩

theorem eq (h : Refines c x y) (hc : c) : x = y := h.elim id fun ⟨_, n⟩ => absurd hc n

theorem of_ok {a : α} (h : Refines c x y) (e : x = .ok a) : y = .ok a := by
  rcases h with h | ⟨h, _⟩
  · exact h ▸ e
  · rw [h] at e; simp at e

end Res.Refines

theorem toNat_sub_one {a : UInt32} (h : 1 ≤ a.toNat) : (a - 1).toNat = a.toNat - 1 :=
  UInt32.toNat_sub_of_le _ _ (UInt32.le_iff_toNat_le.2 h)

theorem toNat_cursor {len : UInt32} {n : Nat} (h : n ≤ len.toNat) : (len - UInt32.ofNat n).toNat = len.toNat - n := by
  have hn : (UInt32.ofNat n).toNat = n := UInt32.toNat_ofNat_of_lt' (Nat.lt_of_le_of_lt h len.toNat_lt)
  rw [UInt32.toNat_sub_of_le _ _ (by rw [UInt32.le_iff_toNat_le, hn]; exact h), hn]

theorem toNat_cursor_sub_one {len : UInt32} {n : Nat} (h : n + 1 ≤ len.toNat) :
    (len - UInt32.ofNat n - 1).toNat = len.toNat - n - 1 := by
  have e := toNat_cursor (len := len) (n := n) (by omega)
  rw [toNat_sub_one (by omega), e]

theorem Ghost.toNat_at (g : Ghost) {n : Nat} (h : n ≤ g.len.toNat) : (g.at n).toNat = g.len.toNat - n := toNat_cursor h

theorem Ghost.at_zero (g : Ghost) : g.at 0 = g.len := UInt32.sub_zero g.len

theorem Ghost.at_sub_one (g : Ghost) {n : Nat} (h : n + 1 ≤ g.len.toNat) : g.at n - 1 = g.at (n + 1) := by
  apply UInt32.toNat_inj.1
  rw [Ghost.at, toNat_cursor_sub_one h, g.toNat_at h]; omega

/-- the one bounds fact of the attribute loops: a slice from where `l.start` was set (`sl` bytes remained) to a
later cursor (`n ≤ sl` remain) lies inside the line -/
theorem sliceOk_at (g : Ghost) (hcap : g.len.toNat ≤ g.cap) {n sl : Nat} (h1 : n ≤ sl) (h2 : sl ≤ g.len.toNat) :
    sliceOk (g.at sl) (g.at n) g.cap = true := by
  simp only [sliceOk, g.toNat_at h2, g.toNat_at (Nat.le_trans h1 h2), Bool.and_eq_true, decide_eq_true_eq]; omega

theorem sliceOk_at_len (g : Ghost) (hcap : g.len.toNat ≤ g.cap) {sl : Nat} (h2 : sl ≤ g.len.toNat) :
    sliceOk (g.at sl) g.len g.cap = true := by
  have := sliceOk_at g hcap (Nat.zero_le sl) h2; rwa [g.at_zero] at this

theorem normByte_58 : normByte 58 = none := by decide
theorem normByte_0 : normByte 0 = none := by decide

theorem norm_cons (b : UInt8) (t : Bytes) : norm (b :: t) = match normByte b with | some c => c :: norm t | none => norm t := by
  simp only [norm, List.filterMap_cons]
  cases normByte b <;> rfl

theorem norm_append (a b : Bytes) : norm (a ++ b) = norm a ++ norm b := by
  simp [norm, List.filterMap_append]

theorem keySep_run (cap : Nat) (name tail : Bytes) (h0 : (0 : UInt8) ∉ name) (hc : (58 : UInt8) ∉ name) :
    ∀ (len : UInt32) (acc : Bytes), (name ++ tail).length ≤ len.toNat → len.toNat ≤ cap →
      ∃ len', keySep cap len acc (name ++ tail) = keySep cap len' ((norm name).reverse ++ acc) tail
        ∧ tail.length ≤ len'.toNat ∧ len'.toNat ≤ len.toNat := by
  induction name with
  | nil => intro len acc h1 h2; exact ⟨len, rfl, by simpa using h1, Nat.le_refl _⟩
  | cons b t ih =>
    intro len acc h1 h2
    have hb0 : b ≠ 0 := (List.ne_of_not_mem_cons h0).symm
    have hb58 : b ≠ 58 := (List.ne_of_not_mem_cons hc).symm
    have ih := ih (List.not_mem_of_not_mem_cons h0) (List.not_mem_of_not_mem_cons hc)
    simp only [List.cons_append, List.length_cons] at h1
    simp only [List.cons_append, keySep, hb0, hb58, if_false, norm_cons]
    cases normByte b with
    | some c =>
      obtain ⟨len', e, l1, l2⟩ := ih len (c :: acc) (by omega) h2
      refine ⟨len', ?_, l1, l2⟩
      have hg : indexOk (len - UInt32.ofNat (t ++ tail).length - 1) len = true := by
        simp only [indexOk, toNat_cursor_sub_one h1, decide_eq_true_eq]; omega
      simp only [guard_true _ hg, ite_self, e, List.reverse_cons, List.append_assoc, List.singleton_append]
    | none =>
      have hlen1 : (len - 1).toNat = len.toNat - 1 := toNat_sub_one (by omega)
      obtain ⟨len', e, l1, l2⟩ := ih (len - 1) acc (by omega) (by omega)
      refine ⟨len', ?_, l1, by omega⟩
      have hg : (sliceOk 0 (len - UInt32.ofNat (t ++ tail).length - 1) cap &&
          sliceOk (len - UInt32.ofNat (t ++ tail).length) len cap) = true := by
        simp only [sliceOk, toNat_cursor_sub_one h1, toNat_cursor (Nat.le_of_succ_le h1), UInt32.toNat_zero, Bool.and_eq_true,
          decide_eq_true_eq]
        omega
      simp only [guard_true _ hg, e]

theorem keySep_append (cap : Nat) (name rest : Bytes) (h0 : (0 : UInt8) ∉ name) (hc : (58 : UInt8) ∉ name)
    (len : UInt32) (acc : Bytes) (h1 : (name ++ 58 :: rest).length ≤ len.toNat) (h2 : len.toNat ≤ cap) :
    ∃ len', keySep cap len acc (name ++ 58 :: rest) = .ok ((norm name).reverse ++ acc, len', rest)
      ∧ rest.length + 1 ≤ len'.toNat ∧ len'.toNat ≤ len.toNat := by
  obtain ⟨len', e, l1, l2⟩ := keySep_run cap name (58 :: rest) h0 hc len acc h1 h2
  exact ⟨len', by rw [e]; simp [keySep], l1, l2⟩

theorem keySep_cases (cap : Nat) (l : Bytes) (len : UInt32) (acc : Bytes) (h1 : l.length ≤ len.toNat) (h2 : len.toNat ≤ cap) :
    keySep cap len acc l = .err .keysep ∨
    ∃ name rest len', l = name ++ 58 :: rest ∧ (0 : UInt8) ∉ name ∧ (58 : UInt8) ∉ name ∧
      keySep cap len acc l = .ok ((norm name).reverse ++ acc, len', rest) ∧
      rest.length + 1 ≤ len'.toNat ∧ len'.toNat ≤ len.toNat := by
  obtain ⟨name, tail, rfl, hn, ht⟩ := exists_split_first (fun b => b = 58 || b = 0) l
  have h0 : (0 : UInt8) ∉ name := fun h => by simpa using hn 0 h
  have hc : (58 : UInt8) ∉ name := fun h => by simpa using hn 58 h
  obtain ⟨len', e, l1, l2⟩ := keySep_run cap name tail h0 hc len acc h1 h2
  rcases ht with rfl | ⟨c, m, rfl, hcm⟩
  · left; rw [e]; rfl
  · by_cases h58 : c = 58
    · subst h58; right; exact ⟨name, m, len', rfl, h0, hc, by rw [e]; simp [keySep], l1, l2⟩
    · have : c = 0 := by simpa [h58] using hcm
      left; rw [e]; simp [keySep, this]

theorem valueSep_run (v tail : Bytes) (h0 : (0 : UInt8) ∉ v) (hb : (124 : UInt8) ∉ v) :
    ∀ acc, valueSep acc (v ++ tail) = valueSep (v.reverse ++ acc) tail := by
  induction v with
  | nil => intro acc; rfl
  | cons b t ih =>
    intro acc
    have hb0 : b ≠ 0 := (List.ne_of_not_mem_cons h0).symm
    have hb1 : b ≠ 124 := (List.ne_of_not_mem_cons hb).symm
    simp only [List.cons_append, valueSep, hb0, hb1, if_false, ih (List.not_mem_of_not_mem_cons h0) (List.not_mem_of_not_mem_cons hb),
      List.reverse_cons, List.append_assoc, List.nil_append]

theorem valueSep_append (v rest : Bytes) (h0 : (0 : UInt8) ∉ v) (hb : (124 : UInt8) ∉ v) (acc : Bytes) :
    valueSep acc (v ++ 124 :: rest) = .ok (acc.reverse ++ v, rest) := by
  rw [valueSep_run v _ h0 hb]; simp [valueSep]

theorem valueSep_cases (l : Bytes) (acc : Bytes) : valueSep acc l = .err .valuesep ∨
    ∃ v rest, l = v ++ 124 :: rest ∧ (0 : UInt8) ∉ v ∧ (124 : UInt8) ∉ v ∧ valueSep acc l = .ok (acc.reverse ++ v, rest) := by
  obtain ⟨v, tail, rfl, hn, ht⟩ := exists_split_first (fun b => b = 124 || b = 0) l
  have h0 : (0 : UInt8) ∉ v := fun h => by simpa using hn 0 h
  have hb : (124 : UInt8) ∉ v := fun h => by simpa using hn 124 h
  rcases ht with rfl | ⟨c, m, rfl, hcm⟩
  · left; rw [valueSep_run v _ h0 hb]; rfl
  · by_cases h : c = 124
    · subst h; right; exact ⟨v, m, rfl, h0, hb, valueSep_append v m h0 hb acc⟩
    · have : c = 0 := by simpa [h] using hcm
      left; rw [valueSep_run v _ h0 hb]; simp [valueSep, this]

theorem valueSep_ne_panic (l : Bytes) (acc : Bytes) : valueSep acc l ≠ .panic := by
  rcases valueSep_cases l acc with e | ⟨_, _, _, _, _, e⟩ <;> simp [e]

theorem TypeSp.type_eq_set {sp : TypeSp} : sp.type = .set ↔ sp = .s := by cases sp <;> decide

theorem lexType_bytes (sp : TypeSp) (rest : Bytes) : lexType (sp.bytes ++ rest) = .ok (sp.type, rest) := by
  cases sp <;> simp [TypeSp.bytes, TypeSp.type, lexType]

theorem lexType_cases (l : Bytes) :
    lexType l = .err .type ∨ ∃ (sp : TypeSp) (r : Bytes), l = sp.bytes ++ r ∧ lexType l = .ok (sp.type, r) := by
  cases l with
  | nil => exact .inl rfl
  | cons b t =>
    by_cases h1 : b = 99; · subst h1; exact .inr ⟨.c, t, rfl, rfl⟩
    by_cases h2 : b = 103; · subst h2; exact .inr ⟨.g, t, rfl, rfl⟩
    by_cases h4 : b = 104; · subst h4; exact .inr ⟨.h, t, rfl, rfl⟩
    by_cases h5 : b = 115; · subst h5; exact .inr ⟨.s, t, rfl, rfl⟩
    by_cases h3 : b = 109
    · subst h3
      cases t with
      | nil => exact .inl rfl
      | cons b2 t2 =>
        by_cases h6 : b2 = 115; · subst h6; exact .inr ⟨.ms, t2, rfl, rfl⟩
        exact .inl (by simp [lexType, h6])
    exact .inl (by simp [lexType, h1, h2, h3, h4, h5])

theorem lexType_ne_panic (l : Bytes) : lexType l ≠ .panic := by
  rcases lexType_cases l with e | ⟨_, _, _, e⟩ <;> simp [e]

theorem isDigit_iff (b : UInt8) : isDigit b = true ↔ 48 ≤ b.toNat ∧ b.toNat ≤ 57 := by
  simp only [isDigit, Bool.and_eq_true, decide_eq_true_eq, UInt8.le_iff_toNat_le]
  exact Iff.rfl

theorem digit_toNat {b : UInt8} (h : isDigit b = true) : (b - 48).toUInt64.toNat = b.toNat - 48 := by
  have := (isDigit_iff b).1 h
  simp only [UInt8.toNat_toUInt64, UInt8.toNat_sub]
  simp only [show (48 : UInt8).toNat = 48 from rfl]
  omega

theorem uintStep_ok {v : UInt64} {b : UInt8} (hd : isDigit b = true) (hfit : v.toNat * 10 + (b.toNat - 48) < 18446744073709551616) :
    (v * 10 + (b - 48).toUInt64).toNat = v.toNat * 10 + (b.toNat - 48) ∧ ¬ (v * 10 + (b - 48).toUInt64 < v) := by
  have h1 : (v * 10 + (b - 48).toUInt64).toNat = v.toNat * 10 + (b.toNat - 48) := by
    rw [UInt64.toNat_add, UInt64.toNat_mul, digit_toNat hd]
    simp only [show (10 : UInt64).toNat = 10 from rfl]
    omega
  refine ⟨h1, ?_⟩
  rw [UInt64.lt_iff_toNat_lt, h1]; omega

def digitsAcc (a : Nat) (ds : Bytes) : Nat := ds.foldl (fun v b => v * 10 + (b.toNat - 48)) a

theorem digitsAcc_cons (a : Nat) (b : UInt8) (ds : Bytes) : digitsAcc a (b :: ds) = digitsAcc (a * 10 + (b.toNat - 48)) ds := by
  simp only [digitsAcc, List.foldl_cons]

theorem digitsAcc_ge (ds : Bytes) : ∀ a, a ≤ digitsAcc a ds := by
  induction ds with
  | nil => intro a; exact Nat.le_refl _
  | cons b t ih => intro a; rw [digitsAcc_cons]; exact Nat.le_trans (by omega) (ih _)

theorem digitsVal_eq (ds : Bytes) : digitsVal ds = digitsAcc 0 ds := rfl

def NumTail (rest : Bytes) : Prop := rest = [] ∨ ∃ c m, rest = c :: m ∧ isDigit c = false ∧ c ≠ 0

theorem uintLoop_digits (ds rest : Bytes) (hd : ∀ b ∈ ds, isDigit b = true) (hr : NumTail rest) :
    ∀ (v : UInt64) (any : Bool), digitsAcc v.toNat ds < 18446744073709551616 → (any = true ∨ ds ≠ []) →
      uintLoop v any (ds ++ rest) = .ok (UInt64.ofNat (digitsAcc v.toNat ds), rest) := by
  induction ds with
  | nil =>
    intro v any hfit hany
    have hany : any = true := by simpa using hany
    simp only [List.nil_append, digitsAcc, List.foldl_nil, UInt64.ofNat_toNat]
    rcases hr with rfl | ⟨c, m, rfl, hc1, hc2⟩
    · simp [uintLoop, hany]
    · simp [uintLoop, hany, hc1, hc2]
  | cons b t ih =>
    intro v any hfit _
    have hb : isDigit b = true := hd b (by simp)
    rw [digitsAcc_cons] at hfit
    have hfit1 : v.toNat * 10 + (b.toNat - 48) < 18446744073709551616 := Nat.lt_of_le_of_lt (digitsAcc_ge t _) hfit
    obtain ⟨e1, e2⟩ := uintStep_ok hb hfit1
    simp only [List.cons_append, uintLoop, hb, if_true, e2, if_false]
    rw [ih (fun x hx => hd x (List.mem_cons_of_mem _ hx)) _ true (by rw [e1]; exact hfit) (Or.inl rfl)]
    rw [e1, digitsAcc_cons]

theorem lexUint32_digits (ds rest : Bytes) (hd : AllDigits ds) (hr : NumTail rest) (hfit : digitsVal ds < 4294967296) :
    lexUint32 (ds ++ rest) = .ok (UInt32.ofNat (digitsVal ds), rest) := by
  unfold lexUint32
  rw [uintLoop_digits ds rest hd.2 hr 0 false (Nat.lt_trans hfit (by decide)) (Or.inr hd.1)]
  simp only [Res.bind_ok, UInt64.toNat_zero, ← digitsVal_eq]
  have h1 : ¬ (UInt64.ofNat (digitsVal ds) > 0xFFFFFFFF) := by
    simp only [gt_iff_lt, UInt64.lt_iff_toNat_lt, UInt64.toNat_ofNat', show (0xFFFFFFFF : UInt64).toNat = 4294967295 from rfl]
    omega
  simp only [h1, if_false]
  congr 2
  apply UInt32.toNat_inj.1
  simp only [UInt64.toNat_toUInt32, UInt64.toNat_ofNat', UInt32.toNat_ofNat']
  omega

theorem uintLoop_suffix (l : Bytes) : ∀ (v : UInt64) (any : Bool), (uintLoop v any l).Ensures fun p => p.2 <:+ l := by
  induction l with
  | nil => intro v any; exact .ite (fun _ => List.suffix_refl _) fun _ => trivial
  | cons c t ih =>
    intro v any
    exact .ite (fun _ => .ite (fun _ => trivial) fun _ => (ih _ _).imp fun _ h => h.trans (List.suffix_cons c t)) fun _ =>
      .ite (fun _ => List.suffix_cons c t) fun _ => .ite (fun _ => List.suffix_refl _) fun _ => trivial

theorem lexUint32_suffix (l : Bytes) : (lexUint32 l).Ensures fun p => p.2 <:+ l :=
  (uintLoop_suffix l 0 false).bind fun _ h => .ite (fun _ => trivial) fun _ => h

theorem lexAssert_spec (c : UInt8) (l : Bytes) : (lexAssert c l).Ensures fun r => l = c :: r := by
  cases l with
  | nil => trivial
  | cons b t => exact .ite (fun h => h ▸ rfl) fun _ => trivial

end Gsd.Lexer

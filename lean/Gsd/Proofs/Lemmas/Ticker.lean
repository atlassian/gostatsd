import Gsd.Model.Ticker
import Batteries.Data.List.Basic
/-! Lemmas for C18.  Arithmetic goes through `slot`: `tickValue = I·slot + off` and `slot_eq_iff` (floor).  The
capacity-1 channel goes through `delivered` (an action only appends to it, `delivered_foldl`).  The mock clock keeps
`SimInv`; `Sim.advanceTo` is either `simInv_wait` or `simInv_fire`. -/
namespace Gsd.Ticker

theorem trunc_eq {I : Int} (hI : 0 < I) (t : Int) : trunc t I = I * (t / I) := by
  have h := Int.mul_ediv_add_emod t I
  simp only [trunc, show ¬ I ≤ 0 by omega, if_false]
  omega

theorem emod_bounds {I : Int} (hI : 0 < I) (t : Int) : 0 ≤ t % I ∧ t % I < I :=
  ⟨Int.emod_nonneg t (by omega), Int.emod_lt_of_pos t hI⟩

theorem trunc_bounds {I : Int} (hI : 0 < I) (t : Int) : trunc t I ≤ t ∧ t < trunc t I + I := by
  have := emod_bounds hI t
  simp only [trunc, show ¬ I ≤ 0 by omega, if_false]
  omega

theorem trunc_emod {I : Int} (hI : 0 < I) (t : Int) : trunc t I % I = 0 := by
  rw [trunc_eq hI]; exact Int.mul_emod_right I _

theorem tickValue_eq_slot {I : Int} (hI : 0 < I) (τ off : Int) : tickValue τ off I = I * slot τ off I + off := by
  simp only [tickValue, trunc_eq hI, slot]

theorem slot_eq_iff {I : Int} (hI : 0 < I) (τ off q : Int) :
    slot τ off I = q ↔ I * q + off ≤ τ ∧ τ < I * q + off + I := by
  rw [slot, show (τ - off) / I = q ↔ q ≤ (τ - off) / I ∧ (τ - off) / I < q + 1 by omega,
    Int.le_ediv_iff_mul_le hI, Int.ediv_lt_iff_lt_mul hI, Int.add_mul, Int.one_mul, Int.mul_comm q I]
  omega

theorem tickValue_aligned {I : Int} (hI : 0 < I) (τ off : Int) : (tickValue τ off I - off) % I = 0 := by
  rw [tickValue_eq_slot hI, Int.add_sub_cancel]; exact Int.mul_emod_right I _

theorem tickValue_bounds {I : Int} (hI : 0 < I) (τ off : Int) :
    tickValue τ off I ≤ τ ∧ τ < tickValue τ off I + I := by
  rw [tickValue_eq_slot hI]; exact (slot_eq_iff hI τ off _).1 rfl

theorem initialWait_eq {I : Int} (hI : 0 < I) (now off : Int) :
    initialWait now off I = I - (now - off) % I := by
  simp only [initialWait, roundup, trunc, show ¬ I ≤ 0 by omega, if_false]
  omega

theorem initialWait_bounds {I : Int} (hI : 0 < I) (now off : Int) :
    0 < initialWait now off I ∧ initialWait now off I ≤ I := by
  have := emod_bounds hI (now - off)
  rw [initialWait_eq hI]
  omega

theorem slot_lt_of_gap {I : Int} (hI : 0 < I) (off a b : Int) (h : a + I ≤ b) : slot a off I < slot b off I := by
  have ha := (slot_eq_iff hI a off _).1 rfl
  have hb := (slot_eq_iff hI b off _).1 rfl
  exact Int.lt_of_mul_lt_mul_left (show I * slot a off I < I * slot b off I by omega) (by omega)

theorem slot_of_boundary {I : Int} (hI : 0 < I) (off q late : Int) (h0 : 0 ≤ late) (h1 : late < I) :
    slot (I * q + off + late) off I = q :=
  (slot_eq_iff hI _ off q).2 ⟨by omega, by omega⟩

theorem tickValue_of_boundary {I : Int} (hI : 0 < I) (off q late : Int) (h0 : 0 ≤ late) (h1 : late < I) :
    tickValue (I * q + off + late) off I = I * q + off := by
  rw [tickValue_eq_slot hI, slot_of_boundary hI off q late h0 h1]

theorem first_deadline_eq {I : Int} (hI : 0 < I) (now off : Int) :
    now + initialWait now off I = I * (slot now off I + 1) + off := by
  have h := Int.mul_ediv_add_emod (now - off) I
  rw [initialWait_eq hI, Int.mul_add]
  simp only [slot]; omega

theorem posMultiple_of_slot_lt {I : Int} (hI : 0 < I) (off a b : Int) (h : slot a off I < slot b off I) :
    PosMultiple I (tickValue a off I) (tickValue b off I) := by
  refine ⟨slot b off I - slot a off I, by omega, ?_⟩
  rw [tickValue_eq_slot hI, tickValue_eq_slot hI, Int.sub_mul, Int.mul_comm (slot b off I), Int.mul_comm (slot a off I)]
  omega

theorem pairwise_tickValues_of_slots {I : Int} (hI : 0 < I) (off : Int) (τs : List Int)
    (h : SlotsIncreasing off I τs) :
    List.Pairwise (PosMultiple I) (τs.map (fun τ => tickValue τ off I)) := by
  rw [List.pairwise_map]
  exact h.imp (fun hab => posMultiple_of_slot_lt hI off _ _ hab)

theorem posMultiple_lt {I : Int} (hI : 0 < I) {a b : Int} (h : PosMultiple I a b) : a < b := by
  obtain ⟨n, hn, he⟩ := h
  have : 0 < n * I := Int.mul_pos hn hI
  omega

theorem pairwise_tickValues {I : Int} (hI : 0 < I) (off : Int) (τs : List Int)
    (h : List.Pairwise (fun a b => a + I ≤ b) τs) :
    List.Pairwise (PosMultiple I) (τs.map (fun τ => tickValue τ off I)) :=
  pairwise_tickValues_of_slots hI off τs (h.imp (slot_lt_of_gap hI off _ _))

theorem deltas_posMultiple {I : Int} (l : List Int) (h : List.Pairwise (PosMultiple I) l) :
    ∀ d ∈ deltas l, ∃ n : Int, 0 < n ∧ d = n * I := by
  induction l with
  | nil => intro d hd; simp [deltas] at hd
  | cons a t ih =>
    cases t with
    | nil => intro d hd; simp [deltas] at hd
    | cons b t' =>
      intro d hd
      simp only [deltas, List.mem_cons] at hd
      rcases hd with rfl | hd
      · exact (List.pairwise_cons.1 h).1 b (by simp)
      · exact ih (List.pairwise_cons.1 h).2 d hd

theorem ticksOf_append (a b : List Act) : ticksOf (a ++ b) = ticksOf a ++ ticksOf b := by
  induction a with
  | nil => rfl
  | cons x a ih => cases x <;> simp [ticksOf, ih]

theorem runActs_snoc (off I : Int) (acts : List Act) (a : Act) :
    runActs off I (acts ++ [a]) = act off I (runActs off I acts) a := by
  simp [runActs, List.foldl_append]

def delivered (c : Chan) : List Int := c.recvd ++ c.chan.toList

theorem delivered_act (off I : Int) (c : Chan) (a : Act) :
    delivered (act off I c a) = delivered c ++
      match a with
      | .tick τ => if c.chan = none then [tickValue τ off I] else []
      | .recv => [] := by
  cases a <;> cases hc : c.chan <;> simp [act, delivered, hc]

theorem delivered_foldl (off I : Int) (acts : List Act) (c : Chan) :
    ∃ l, delivered (acts.foldl (act off I) c) = delivered c ++ l ∧
      l.Sublist ((ticksOf acts).map (fun τ => tickValue τ off I)) ∧
      (c.chan = none → l.head? = ((ticksOf acts).map (fun τ => tickValue τ off I)).head?) := by
  induction acts generalizing c with
  | nil => exact ⟨[], (List.append_nil _).symm, List.Sublist.refl _, fun _ => rfl⟩
  | cons a acts ih =>
    obtain ⟨l, h1, h2, h3⟩ := ih (act off I c a)
    rw [List.foldl_cons, h1, delivered_act, List.append_assoc]
    refine ⟨_, rfl, ?_, fun hc => ?_⟩
    · cases a with
      | tick τ =>
        simp only [ticksOf, List.map_cons]
        split
        · exact List.Sublist.cons_cons _ h2
        · exact List.Sublist.cons _ h2
      | recv => exact h2
    · cases a with
      | tick τ => simp only [hc, if_true, ticksOf, List.map_cons, List.cons_append, List.head?_cons]
      | recv => exact h3 (by simp only [act, hc])

theorem delivered_sublist (off I : Int) (acts : List Act) :
    ((runActs off I acts).recvd ++ (runActs off I acts).chan.toList).Sublist
      ((ticksOf acts).map (fun τ => tickValue τ off I)) := by
  obtain ⟨l, h1, h2, _⟩ := delivered_foldl off I acts {}
  rw [show (runActs off I acts).recvd ++ (runActs off I acts).chan.toList = l from h1]
  exact h2

theorem recvd_sublist (off I : Int) (acts : List Act) :
    (runActs off I acts).recvd.Sublist ((ticksOf acts).map (fun τ => tickValue τ off I)) :=
  (List.sublist_append_left _ _).trans (delivered_sublist off I acts)

theorem delivered_head (off I : Int) (acts : List Act) (τ₀ : Int) (h : (ticksOf acts).head? = some τ₀) :
    ((runActs off I acts).recvd ++ (runActs off I acts).chan.toList).head? = some (tickValue τ₀ off I) := by
  obtain ⟨l, h1, _, h3⟩ := delivered_foldl off I acts {}
  rw [show (runActs off I acts).recvd ++ (runActs off I acts).chan.toList = l from h1, h3 rfl, List.head?_map, h]
  rfl

theorem runActs_no_ticks (off I : Int) (acts : List Act) (h : ticksOf acts = []) : runActs off I acts = {} := by
  induction acts with
  | nil => rfl
  | cons a acts ih =>
    cases a with
    | tick τ => cases h
    | recv => exact ih h

theorem forall₂_snoc {α β : Type} (R : α → β → Prop) (a : List α) (b : List β) (x : α) (y : β)
    (h : List.Forall₂ R a b) (hxy : R x y) : List.Forall₂ R (a ++ [x]) (b ++ [y]) := by
  induction h with
  | nil => exact List.Forall₂.cons hxy List.Forall₂.nil
  | cons h1 _ ih => exact List.Forall₂.cons h1 ih

/-- `future`: `Mock.set` fires everything due -/
structure SimInv (now₀ off I : Int) (s : Sim) : Prop where
  ch_eq : s.ch = runActs off I s.log
  phase : (s.timer = some (now₀ + initialWait now₀ off I) ∧ s.ticker = none ∧ ticksOf s.log = []) ∨
          (s.timer = none ∧ ∃ Dk, s.ticker = some Dk ∧
             (ticksOf s.log).head? = some (now₀ + initialWait now₀ off I) ∧
             List.Pairwise (fun a b => a + I ≤ b) (ticksOf s.log) ∧ ∀ a ∈ ticksOf s.log, a + I ≤ Dk)
  future : (∀ D, s.timer = some D → s.now < D) ∧ (∀ D, s.ticker = some D → s.now < D)
  chan_le : ∀ v, s.ch.chan = some v → v ≤ s.now
  recvd_le : List.Forall₂ (fun v c => v ≤ c) s.ch.recvd s.clocks

theorem simInv_init {I : Int} (hI : 0 < I) (now₀ off : Int) : SimInv now₀ off I (Sim.init now₀ off I) := by
  have := initialWait_bounds hI now₀ off
  refine ⟨rfl, Or.inl ⟨rfl, rfl, rfl⟩, ⟨?timer, ?ticker⟩, ?chan_le, ?recvd_le⟩
  case timer => intro D hD; simp only [Sim.init, Option.some.injEq] at hD; subst hD; simp only [Sim.init]; omega
  case ticker => intro D hD; simp [Sim.init] at hD
  case chan_le => intro v hv; simp [Sim.init] at hv
  case recvd_le => simp [Sim.init]

theorem simInv_recv {now₀ off I : Int} (s : Sim) (h : SimInv now₀ off I s) (v : Int) (hv : s.ch.chan = some v)
    (b : Bool) (evs : List Ev) :
    SimInv now₀ off I { Sim.doAct off I s .recv with busy := b, clocks := s.clocks ++ [s.now], evs := evs } := by
  obtain ⟨h1, h2, h3, h4, h5⟩ := h
  refine ⟨?ch_eq, ?phase, h3, ?chan_le, ?recvd_le⟩
  case ch_eq => simp only [Sim.doAct, runActs_snoc, ← h1]
  case phase =>
    have hlog : ticksOf (s.log ++ [Act.recv]) = ticksOf s.log := by rw [ticksOf_append]; exact List.append_nil _
    simpa only [Sim.doAct, hlog] using h2
  case chan_le => intro w hw; simp only [Sim.doAct, act, hv, reduceCtorEq] at hw
  case recvd_le =>
    simp only [Sim.doAct, act, hv]
    exact forall₂_snoc _ _ _ _ _ h5 (h4 v hv)

theorem simInv_settle {now₀ off I : Int} (fl : Bool) (s : Sim) (h : SimInv now₀ off I s) :
    SimInv now₀ off I (Sim.settle off I fl s) := by
  unfold Sim.settle
  split
  · cases hc : s.ch.chan with
    | none => exact h
    | some v => exact simInv_recv s h v hc _ _
  · exact h

theorem simInv_busy_evs {now₀ off I : Int} (s : Sim) (h : SimInv now₀ off I s) (b : Bool) (e : List Ev) :
    SimInv now₀ off I { s with busy := b, evs := e } := ⟨h.1, h.2, h.3, h.4, h.5⟩

theorem act_tick_recvd (off I : Int) (c : Chan) (τ : Int) : (act off I c (.tick τ)).recvd = c.recvd := by
  simp only [act]; split <;> rfl

theorem act_tick_chan (off I : Int) (c : Chan) (τ : Int) :
    (act off I c (.tick τ)).chan = some (c.chan.getD (tickValue τ off I)) := by
  simp only [act]; split <;> simp only [*, Option.getD_none, Option.getD_some]

theorem simInv_wait {now₀ off I : Int} (s : Sim) (h : SimInv now₀ off I s) (t : Int) (ht : s.now ≤ t)
    (h1 : ∀ D, s.timer = some D → t < D) (h2 : ∀ D, s.ticker = some D → t < D) :
    SimInv now₀ off I { s with now := t } :=
  ⟨h.ch_eq, h.phase, ⟨h1, h2⟩, fun v hv => Int.le_trans (h.chan_le v hv) ht, h.recvd_le⟩

theorem simInv_fire {now₀ off I : Int} (hI : 0 < I) (s : Sim) (h : SimInv now₀ off I s) (t D Dk : Int)
    (ht : s.now ≤ t) (hD : D ≤ t) (hnext : t < Dk) (hstep : D + I ≤ Dk)
    (hhead : (ticksOf s.log ++ [D]).head? = some (now₀ + initialWait now₀ off I))
    (hpw : List.Pairwise (fun a b => a + I ≤ b) (ticksOf s.log)) (hle : ∀ a ∈ ticksOf s.log, a + I ≤ D) :
    SimInv now₀ off I (Sim.doAct off I { s with now := t, timer := none, ticker := some Dk } (.tick D)) := by
  have hlog : ticksOf (s.log ++ [Act.tick D]) = ticksOf s.log ++ [D] := ticksOf_append _ _
  refine ⟨?ch_eq, Or.inr ⟨rfl, Dk, rfl, ?head, ?gaps, ?before_Dk⟩, ⟨?timer, ?ticker⟩, ?chan_le, ?recvd_le⟩
  case ch_eq => simp only [Sim.doAct, runActs_snoc, ← h.ch_eq]
  case head => simp only [Sim.doAct, hlog, hhead]
  case gaps =>
    simp only [Sim.doAct, hlog, List.pairwise_append, List.pairwise_cons, List.mem_singleton]
    exact ⟨hpw, ⟨fun _ h' => (nomatch h'), List.Pairwise.nil⟩, fun a ha b hb => hb ▸ hle a ha⟩
  case before_Dk =>
    intro a ha
    simp only [Sim.doAct, hlog, List.mem_append, List.mem_singleton] at ha
    rcases ha with ha | rfl
    · exact Int.le_trans (hle a ha) (Int.le_trans (Int.le_add_of_nonneg_right (Int.le_of_lt hI)) hstep)
    · exact hstep
  case timer => intro D' hD'; cases hD'
  case ticker => intro D' hD'; cases hD'; exact hnext
  case chan_le =>
    intro v hv
    simp only [Sim.doAct, act_tick_chan, Option.some.injEq] at hv
    subst hv
    cases hc : s.ch.chan with
    | none => exact Int.le_trans (tickValue_bounds hI D off).1 hD
    | some w => exact Int.le_trans (h.chan_le w hc) ht
  case recvd_le => simp only [Sim.doAct, act_tick_recvd]; exact h.recvd_le

/-- `Mock.set` re-arms a ticker that was due at `D` to the first multiple of the period after `t` -/
theorem rearm {I : Int} (hI : 0 < I) {D t : Int} (hD : D ≤ t) :
    t < D + ((t - D) / I + 1) * I ∧ D + I ≤ D + ((t - D) / I + 1) * I := by
  have hq : 0 ≤ (t - D) / I * I := Int.mul_nonneg (Int.ediv_nonneg (by omega) (by omega)) (by omega)
  have := Int.lt_ediv_add_one_mul_self (t - D) hI
  rw [Int.add_mul, Int.one_mul] at this ⊢
  omega

theorem simInv_advanceTo {now₀ off I : Int} (hI : 0 < I) (fl : Bool) (s : Sim) (h : SimInv now₀ off I s)
    (t : Int) (ht : s.now ≤ t) : SimInv now₀ off I (Sim.advanceTo off I fl s t) := by
  unfold Sim.advanceTo
  rcases h.phase with ⟨ht1, ht2, ht3⟩ | ⟨ht1, Dk, ht2, hhead, hpw, hle⟩
  · simp only [ht1]
    split
    · next hD =>
      refine simInv_settle _ _ (simInv_fire hI s h t _ (t + I) ht hD (Int.lt_add_of_pos_right t hI) (Int.add_le_add_right hD I) ?_ ?_ ?_)
      · rw [ht3]; rfl
      · rw [ht3]; exact List.Pairwise.nil
      · rw [ht3]; exact fun _ h' => nomatch h'
    · next hD =>
      simpa only [ht1] using
        simInv_wait s h t ht (fun D e => by rw [ht1] at e; cases e; exact Int.not_le.1 hD) (fun D e => by rw [ht2] at e; cases e)
  · simp only [ht1, ht2]
    split
    · next hD =>
      obtain ⟨hnext, hstep⟩ := rearm hI hD
      refine simInv_settle _ _ (simInv_fire hI s h t Dk _ ht hD hnext hstep ?_ hpw hle)
      cases hτ : ticksOf s.log with
      | nil => rw [hτ] at hhead; cases hhead
      | cons x r => rw [hτ] at hhead; exact hhead
    · next hD =>
      simpa only [ht1, ht2] using
        simInv_wait s h t ht (fun D e => by rw [ht1] at e; cases e) (fun D e => by rw [ht2] at e; cases e; exact Int.not_le.1 hD)

theorem simInv_step {now₀ off I : Int} (hI : 0 < I) (fl : Bool) (s : Sim) (h : SimInv now₀ off I s)
    (op : SOp) (hop : op.ok = true) : SimInv now₀ off I (Sim.step off I fl s op) := by
  cases op with
  | add d =>
    simp only [SOp.ok, decide_eq_true_eq] at hop
    exact simInv_advanceTo hI fl s h _ (Int.le_add_of_nonneg_right hop)
  | next =>
    simp only [Sim.step]
    split
    · next D hD =>
      have : s.now < D := by
        cases hT : s.timer with
        | some D' => rw [hT] at hD; exact Option.some.inj hD ▸ h.future.1 D' hT
        | none => rw [hT] at hD; exact h.future.2 D hD
      exact simInv_busy_evs _ (simInv_advanceTo hI fl s h D (Int.le_of_lt this)) _ _
    · exact simInv_busy_evs s h _ _
  | recv =>
    simp only [Sim.step]
    cases fl with
    | true =>
      simp only [if_true]
      split
      · exact simInv_settle _ _ (simInv_busy_evs s h false _)
      · exact h
    | false =>
      simp only [Bool.false_eq_true, if_false]
      cases hc : s.ch.chan with
      | none => simp only; exact simInv_busy_evs s h _ _
      | some v => simp only; exact simInv_recv s h v hc _ _

theorem simInv_run {I : Int} (hI : 0 < I) (now₀ off : Int) (fl : Bool) (script : List SOp) (hs : ScriptOk script) :
    SimInv now₀ off I (Sim.run now₀ off I fl script) :=
  List.foldlRecOn (motive := SimInv now₀ off I) script _ (simInv_init hI now₀ off)
    fun s h op hop => simInv_step hI fl s h op (hs op hop)

end Gsd.Ticker

/-! General facts about `List` and `Option` that several parts of the development use; nothing here mentions the
model (core Lean only). -/
namespace Gsd

/-- The schedule runners that refuse a schedule with a disabled action (`Sender.exec`, `Collector.exec`, `Flusher.exec`,
`Cache.run`, `Events.run`, `Lambda.run`, `crun`) are `List.foldlM step` in `Option` (`eq_foldlM_of_rec`). -/
theorem foldlM_induct {σ α : Type} {step : σ → α → Option σ} (R : σ → List α → σ → Prop) (nil : ∀ s, R s [] s)
    (cons : ∀ {s a s₁ as s'}, step s a = some s₁ → R s₁ as s' → R s (a :: as) s') :
    ∀ (as : List α) {s s' : σ}, as.foldlM step s = some s' → R s as s'
  | [], s, s', h => by cases h; exact nil s
  | a :: as, s, s', h => by
    simp only [List.foldlM_cons, Option.bind_eq_bind, Option.bind_eq_some_iff] at h
    obtain ⟨s₁, h₁, h₂⟩ := h
    exact cons h₁ (foldlM_induct R nil cons as h₂)

theorem foldlM_inv {σ α : Type} {step : σ → α → Option σ} (P : σ → Prop)
    (hstep : ∀ s a s', P s → step s a = some s' → P s') (as : List α) {s s' : σ} (hi : P s)
    (h : as.foldlM step s = some s') : P s' :=
  foldlM_induct (fun s _ s' => P s → P s') (fun _ => id) (fun hs ih hi => ih (hstep _ _ _ hi hs)) as h hi

theorem eq_foldlM_of_rec {σ α : Type} {step : σ → α → Option σ} {run : σ → List α → Option σ}
    (nil : ∀ s, run s [] = some s) (cons : ∀ s a as, run s (a :: as) = (step s a).bind (run · as)) (s : σ) (as : List α) :
    run s as = as.foldlM step s := by
  induction as generalizing s with
  | nil => exact nil s
  | cons a as ih => rw [cons, List.foldlM_cons]; exact congrArg _ (funext ih)

theorem getElem?_append_of_some {β : Type} {l : List β} {i : Nat} {v : β} (x : List β) (h : l[i]? = some v) :
    (l ++ x)[i]? = some v := by
  rw [List.getElem?_append_left (List.getElem?_eq_some_iff.mp h).1, h]

theorem getElem?_concat_cases {β : Type} {fs : List β} {g g' : β} {i : Nat} (h : (fs ++ [g])[i]? = some g') :
    fs[i]? = some g' ∨ i = fs.length ∧ g' = g := by
  rw [List.getElem?_append] at h
  split at h
  · exact Or.inl h
  · obtain ⟨hi, rfl⟩ := List.getElem?_eq_some_iff.mp h
    simp only [List.length_singleton] at hi
    exact Or.inr ⟨by omega, by simp⟩

theorem forall_getElem?_modify {β} {P : Nat → β → Prop} {l : List β} (hl : ∀ j x, l[j]? = some x → P j x) (i : Nat)
    {f : β → β} (hf : ∀ x, l[i]? = some x → P i (f x)) : ∀ j y, (l.modify i f)[j]? = some y → P j y := by
  intro j y hy
  rw [List.getElem?_modify] at hy
  obtain ⟨x, hx, rfl⟩ := Option.map_eq_some_iff.mp hy
  split
  · next e => subst e; exact hf x hx
  · exact hl j x hx

theorem forall_getElem?_set {β} {P : Nat → β → Prop} {l : List β} (hl : ∀ j x, l[j]? = some x → P j x) (i : Nat)
    {y : β} (hy : P i y) : ∀ j x, (l.set i y)[j]? = some x → P j x := by
  intro j x hx
  rw [List.getElem?_set] at hx
  split at hx
  · next e => subst e; split at hx <;> cases hx; exact hy
  · exact hl j x hx

theorem forall_mem_modify {β} {P : β → Prop} {l : List β} (hl : ∀ x ∈ l, P x) (i : Nat) {f : β → β}
    (hf : ∀ x ∈ l, P (f x)) : ∀ x ∈ l.modify i f, P x := fun x hx => by
  obtain ⟨j, hj⟩ := List.mem_iff_getElem?.mp hx
  exact forall_getElem?_modify (P := fun _ => P) (fun _ x h => hl x (List.mem_of_getElem? h)) i
    (fun x h => hf x (List.mem_of_getElem? h)) j x hj

theorem forall_mem_set {β} {P : β → Prop} {l : List β} (hl : ∀ x ∈ l, P x) (i : Nat) {y : β} (hy : P y) :
    ∀ x ∈ l.set i y, P x :=
  fun x hx => (List.mem_or_eq_of_mem_set hx).elim (hl x) (· ▸ hy)

theorem flatten_modify_append {γ} (l : List (List γ)) (i : Nat) (hi : i < l.length) (x : List γ) :
    (l.modify i (· ++ x)).flatten.Perm (l.flatten ++ x) := by
  induction l generalizing i with
  | nil => simp at hi
  | cons p t ih =>
    cases i with
    | zero =>
      simp only [List.modify_zero_cons, List.flatten_cons, List.append_assoc]
      exact List.Perm.append_left _ List.perm_append_comm
    | succ j =>
      simp only [List.modify_succ_cons, List.flatten_cons, List.append_assoc]
      exact List.Perm.append_left _ (ih j (by simpa using hi))

/-- in `Int`, where the subtraction is exact -/
theorem sum_map_set {α : Type} (f : α → Nat) (l : List α) (i : Nat) (old new : α) (h : l[i]? = some old) :
    ((((l.set i new).map f).sum : Nat) : Int) = ((l.map f).sum : Nat) - f old + f new := by
  induction l generalizing i with
  | nil => simp at h
  | cons x xs ih =>
    cases i with
    | zero =>
      obtain rfl : x = old := by simpa using h
      simp only [List.set_cons_zero, List.map_cons, List.sum_cons]
      omega
    | succ j =>
      have := ih j (by simpa using h)
      simp only [List.set_cons_succ, List.map_cons, List.sum_cons]
      omega

theorem splice_frame {α} (A W Y P : List α) (hY : Y.length = W.length) :
    (A ++ (Y ++ P)).length = (A ++ (W ++ P)).length ∧
    ∀ k, (k < A.length ∨ A.length + W.length ≤ k) → (A ++ (Y ++ P))[k]? = (A ++ (W ++ P))[k]? := by
  refine ⟨by simp only [List.length_append, hY], fun k hk => ?_⟩
  rcases hk with hk | hk
  · rw [List.getElem?_append_left hk, List.getElem?_append_left hk]
  · rw [List.getElem?_append_right (by omega), List.getElem?_append_right (by omega), List.getElem?_append_right (by omega),
      List.getElem?_append_right (by omega), hY]

theorem exists_split_first {α} (p : α → Bool) (l : List α) :
    ∃ a b, l = a ++ b ∧ (∀ x ∈ a, p x = false) ∧ (b = [] ∨ ∃ c m, b = c :: m ∧ p c = true) := by
  induction l with
  | nil => exact ⟨[], [], rfl, by simp, .inl rfl⟩
  | cons x t ih =>
    cases hx : p x with
    | true => exact ⟨[], x :: t, rfl, by simp, .inr ⟨x, t, rfl, hx⟩⟩
    | false =>
      obtain ⟨a, b, rfl, ha, hb⟩ := ih
      exact ⟨x :: a, b, rfl, by simpa [hx] using ha, hb⟩

theorem append_cons_unique {α} {c : α} {a a' b b' : List α} (h : a ++ c :: b = a' ++ c :: b') (h1 : c ∉ a) (h2 : c ∉ a') :
    a = a' ∧ b = b' := by
  induction a generalizing a' with
  | nil =>
    cases a' with
    | nil => simpa using h
    | cons x t => simp at h; exact absurd (by simp [h.1]) h2
  | cons x t ih =>
    cases a' with
    | nil => simp at h; exact absurd (by simp [h.1]) h1
    | cons y t' =>
      simp only [List.cons_append, List.cons.injEq] at h
      obtain ⟨e1, e2⟩ := ih h.2 (List.not_mem_of_not_mem_cons h1) (List.not_mem_of_not_mem_cons h2)
      exact ⟨by rw [h.1, e1], e2⟩

theorem drop_length_cons_append {α} (M B : List α) : ∀ x : α, (x :: (M ++ B)).drop M.length = M.getLastD x :: B := by
  induction M with
  | nil => intro x; rfl
  | cons y M ih => intro x; rw [List.getLastD_cons]; exact ih y

theorem nodup_flatMap_pair {α β γ : Type} (f : α → β) (g : α → List γ) (l : List α) (hl : (l.map f).Nodup)
    (hg : ∀ a ∈ l, (g a).Nodup) : (l.flatMap fun a => (g a).map fun b => (f a, b)).Nodup := by
  rw [List.Nodup, List.pairwise_flatMap]
  refine ⟨fun a ha => List.Pairwise.map _ (fun _ _ h hc => h (Prod.mk.inj hc).2) (hg a ha),
    (List.pairwise_map.mp hl).imp fun hne x hx y hy => ?_⟩
  obtain ⟨_, _, rfl⟩ := List.mem_map.mp hx
  obtain ⟨_, _, rfl⟩ := List.mem_map.mp hy
  exact fun e => hne (Prod.mk.inj e).1

theorem find?_eq_some_of_nodup_map {α β : Type} [DecidableEq β] (p : α → Bool) (f : α → β) (l : List α)
    (hd : ((l.filter p).map f).Nodup) {q : α} (hq : q ∈ l) (hp : p q = true) :
    l.find? (fun x => p x && f x == f q) = some q := by
  obtain ⟨as, bs, rfl⟩ := List.append_of_mem hq
  rw [List.find?_eq_some_iff_append]
  refine ⟨by simp only [hp, beq_self_eq_true, Bool.and_self], as, bs, rfl, fun a ha => ?_⟩
  simp only [List.filter_append, List.filter_cons, hp, if_true, List.map_append, List.map_cons, List.nodup_append,
    List.mem_map, List.mem_filter, List.mem_cons] at hd
  cases hpa : p a with
  | false => rfl
  | true =>
    have : f a ≠ f q := hd.2.2 (f a) ⟨a, ⟨ha, hpa⟩, rfl⟩ (f q) (Or.inl rfl)
    simp only [Bool.true_and, Bool.not_eq_eq_eq_not, Bool.not_true, beq_eq_false_iff_ne, ne_eq, this, not_false_eq_true]

theorem mem_foldl_acc {γ β : Type} (g : List β → γ → List β) (S : γ → β → Prop)
    (hg : ∀ d c x, x ∈ g d c ↔ x ∈ d ∨ S c x) (cs : List γ) (d : List β) (x : β) :
    x ∈ cs.foldl g d ↔ x ∈ d ∨ ∃ c ∈ cs, S c x := by
  induction cs generalizing d with
  | nil => simp
  | cons c cs ih => simp [ih, hg, or_assoc]

end Gsd

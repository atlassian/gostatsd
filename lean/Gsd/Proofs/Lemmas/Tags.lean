import Gsd.Model.Tags
import Gsd.Proofs.Lemmas.Agg
/-! Lemmas for C10 (tag stage): the matcher's three pattern forms, what the de-duplication loop keeps (`uniqLoop_spec`),
the filter loop in closed form (`runFilters_eq`: only the filters that apply matter), and re-keying with collisions
(`agg_mergeWith_dups`, `mergeWith_origin` in Lemmas/MetricMap; the collision branch is `MetricMap`'s `Merge…` for three of the four types). -/
namespace Gsd.Tags
open Gsd AList

theorem hasPrefix_iff (s p : List Char) : hasPrefix s p = true ↔ p <+: s := by
  simp only [hasPrefix, Bool.and_eq_true, decide_eq_true_eq, beq_iff_eq]
  constructor
  · rintro ⟨_, h⟩; exact h ▸ List.take_prefix _ _
  · rintro ⟨t, rfl⟩; simp

theorem hasSuffix_iff (s p : List Char) : hasSuffix s p = true ↔ p <:+ s := by
  simp only [hasSuffix, Bool.and_eq_true, decide_eq_true_eq, beq_iff_eq]
  constructor
  · rintro ⟨_, h⟩; exact h ▸ List.drop_suffix _ _
  · rintro ⟨t, rfl⟩; simp

theorem hasPrefix_bang (t : List Char) : hasPrefix t ['!'] = true ↔ t.head? = some '!' := by
  rw [hasPrefix_iff]
  cases t with
  | nil => simp
  | cons a t => simp [List.cons_prefix_cons, eq_comm]

theorem regexLit_length : regexLit.length = 6 := rfl

theorem parseBody_regex (inv : Bool) (b : List Char) :
    parseBody inv (regexLit ++ b) = { test := b, invert := inv, pfx := false, regex := some (String.ofList b) } := by
  simp only [parseBody, (hasPrefix_iff _ _).mpr ⟨b, rfl⟩, if_true, List.drop_left' regexLit_length]

theorem parseBody_prefix (inv : Bool) (b : List Char) (h : ¬ regexLit <+: (b ++ ['*'])) :
    parseBody inv (b ++ ['*']) = { test := b, invert := inv, pfx := true, regex := none } := by
  have h3 : hasSuffix (b ++ ['*']) ['*'] = true := (hasSuffix_iff _ _).mpr ⟨b, rfl⟩
  have h4 : (b ++ ['*']).take ((b ++ ['*']).length - 1) = b := by
    apply List.take_left'; simp
  simp only [parseBody, mt (hasPrefix_iff _ _).mp h, h3, h4, Bool.false_eq_true, if_false, if_true]

theorem parseBody_exact (inv : Bool) (b : List Char) (h : ¬ regexLit <+: b) (h' : ¬ ['*'] <:+ b) :
    parseBody inv b = { test := b, invert := inv, pfx := false, regex := none } := by
  simp only [parseBody, mt (hasPrefix_iff _ _).mp h, mt (hasSuffix_iff _ _).mp h', Bool.false_eq_true, if_false]

theorem newStringMatch_sign (neg : Bool) (body : List Char) (hb : neg = false → body.head? ≠ some '!') :
    newStringMatch (String.ofList ((if neg then ['!'] else []) ++ body)) = parseBody neg body := by
  cases neg
  · simp only [newStringMatch, String.toList_ofList, mt (hasPrefix_bang _).mp (hb rfl), Bool.false_eq_true, if_false,
      List.nil_append]
  · have h1 : hasPrefix ('!' :: body) ['!'] = true := (hasPrefix_bang _).mpr rfl
    simp only [newStringMatch, String.toList_ofList, h1, if_true, List.singleton_append, List.drop_succ_cons, List.drop_zero]

private theorem mem_swap {r : List String} {l : String} (h : r.getLast? = some l) (y : String) :
    y ∈ l :: r.dropLast ↔ y ∈ r := by
  conv_rhs => rw [← List.dropLast_append_getLast? l h]
  simp [or_comm]

/-- The order of `kept` depends on the swaps, so in general only its members are stated. -/
theorem uniqLoop_spec (n : Nat) (seen done rest : List String) (hn : rest.length ≤ n) :
    ∃ kept, uniqLoop n seen done rest = (done ++ kept, kept.reverse ++ seen) ∧
      kept.Nodup ∧ (∀ y, y ∈ kept ↔ y ∈ rest ∧ y ∉ seen) ∧
      (rest.Nodup → (∀ x ∈ rest, x ∉ seen) → kept = rest) := by
  induction n generalizing seen done rest with
  | zero =>
    have : rest = [] := List.eq_nil_of_length_eq_zero (by omega)
    exact ⟨[], by simp [this, uniqLoop]⟩
  | succ n ih =>
    cases rest with
    | nil => exact ⟨[], by simp [uniqLoop]⟩
    | cons x r =>
      by_cases hx : x ∈ seen
      · have hfr : (∀ y ∈ x :: r, y ∉ seen) → False := fun h => h x List.mem_cons_self hx
        cases hl : r.getLast? with
        | none =>
          refine ⟨[], by simp [uniqLoop, hx, hl], List.nodup_nil, fun y => ?_, fun _ h => (hfr h).elim⟩
          simp only [List.getLast?_eq_none_iff.mp hl, List.not_mem_nil, List.mem_singleton, false_iff, not_and, not_not]
          rintro rfl; exact hx
        | some l =>
          have hlen : (l :: r.dropLast).length ≤ n := by
            have : 0 < r.length := List.length_pos_of_ne_nil (by rintro rfl; simp at hl)
            simp at hn ⊢; omega
          obtain ⟨kept, h1, h2, h3, _⟩ := ih seen done (l :: r.dropLast) hlen
          refine ⟨kept, by simpa [uniqLoop, hx, hl] using h1, h2, fun y => ?_, fun _ h => (hfr h).elim⟩
          rw [h3, mem_swap hl, List.mem_cons]
          exact ⟨fun ⟨a, b⟩ => ⟨Or.inr a, b⟩, fun ⟨a, b⟩ => ⟨a.resolve_left fun e => b (e ▸ hx), b⟩⟩
      · obtain ⟨kept, h1, h2, h3, h4⟩ := ih (x :: seen) (done ++ [x]) r (by simpa using hn)
        refine ⟨x :: kept, by simpa [uniqLoop, hx] using h1, ?_, fun y => ?_, fun hnd hf => ?_⟩
        · exact List.nodup_cons.mpr ⟨fun h => ((h3 x).mp h).2 List.mem_cons_self, h2⟩
        · simp only [List.mem_cons, h3, not_or]
          by_cases hy : y = x
          · simp [hy, hx]
          · simp [hy]
        · obtain ⟨hxr, hr⟩ := List.nodup_cons.mp hnd
          rw [h4 hr fun y hy => by
            simp only [List.mem_cons, not_or]
            exact ⟨fun e => hxr (e ▸ hy), hf y (List.mem_cons_of_mem _ hy)⟩]

theorem mem_uniqueTagsWithSeen (seen t1 t2 : List String) (y : String) :
    y ∈ uniqueTagsWithSeen seen t1 t2 ↔ (y ∈ t1 ∨ y ∈ t2) ∧ y ∉ seen := by
  obtain ⟨kept, h1, _, h3, _⟩ := uniqLoop_spec t1.length seen [] t1 (Nat.le_refl _)
  simp only [uniqueTagsWithSeen, h1, List.nil_append, List.mem_append, List.mem_filter, List.contains_eq_mem,
    Bool.not_eq_true', decide_eq_false_iff_not, List.mem_reverse, h3]
  by_cases a : y ∈ seen <;> by_cases b : y ∈ t1 <;> simp [a, b]

theorem nodup_uniqueTagsWithSeen (seen t1 t2 : List String) (ht2 : t2.Nodup) :
    (uniqueTagsWithSeen seen t1 t2).Nodup := by
  obtain ⟨kept, h1, h2, _⟩ := uniqLoop_spec t1.length seen [] t1 (Nat.le_refl _)
  rw [uniqueTagsWithSeen, h1, List.nil_append]
  refine List.nodup_append.mpr ⟨h2, ht2.filter _, fun a ha b hb e => ?_⟩
  simp only [List.mem_filter, List.contains_eq_mem, Bool.not_eq_true', decide_eq_false_iff_not, List.mem_append,
    List.mem_reverse] at hb
  exact hb.2 (Or.inl (e ▸ ha))

theorem mem_uniqueTags (t1 t2 : List String) (y : String) : y ∈ uniqueTags t1 t2 ↔ y ∈ t1 ∨ y ∈ t2 := by
  simp [uniqueTags, mem_uniqueTagsWithSeen]

theorem nodup_uniqueTags (t1 t2 : List String) (h : t2.Nodup) : (uniqueTags t1 t2).Nodup :=
  nodup_uniqueTagsWithSeen [] t1 t2 h

theorem uniqueTags_of_nodup (t1 t2 : List String) (h : (t1 ++ t2).Nodup) : uniqueTags t1 t2 = t1 ++ t2 := by
  obtain ⟨h1, _, hd⟩ := List.nodup_append.mp h
  obtain ⟨kept, hk, _, _, hfresh⟩ := uniqLoop_spec t1.length [] [] t1 (Nat.le_refl _)
  rw [hfresh h1 (by simp)] at hk
  simp only [uniqueTags, uniqueTagsWithSeen, hk, List.nil_append, List.append_nil]
  congr 1
  exact List.filter_eq_self.mpr fun y hy => by simpa using fun hy1 => hd y hy1 y hy rfl

theorem newTagHandler_tags (est : Nat) (raw : List String) (fs : List Filter) :
    (newTagHandler est raw fs).tags.Nodup ∧ ∀ y, y ∈ (newTagHandler est raw fs).tags ↔ y ∈ raw := by
  refine ⟨nodup_uniqueTags _ _ List.nodup_nil, fun y => ?_⟩
  simp [newTagHandler, mem_uniqueTags]

theorem matchAny_iff (re : String → String → Bool) (l : List StringMatch) (x : String) :
    matchAny re l x = true ↔ ∃ p ∈ l, p.matches re x = true := by simp [matchAny]

theorem matchAnyMultiple_iff (re : String → String → Bool) (l : List StringMatch) (ts : List String) :
    matchAnyMultiple re l ts = true ↔ ∃ t ∈ ts, ∃ p ∈ l, p.matches re t = true := by
  simp [matchAnyMultiple, matchAny_iff]

theorem filterApplies_eq (re : String → String → Bool) (f : Filter) (name : String) (tags : List String) :
    filterApplies re f name tags =
      ((f.matchMetrics.isEmpty || matchAny re f.matchMetrics name) && !matchAny re f.excludeMetrics name &&
       (f.matchTags.isEmpty || matchAnyMultiple re f.matchTags tags)) := by
  have hlen : ∀ l : List StringMatch, decide (l.length > 0) = !l.isEmpty := fun l => by cases l <;> rfl
  simp only [filterApplies, hlen, Bool.if_false_left, Bool.and_true, Bool.decide_eq_true, Bool.not_and, Bool.not_not,
    Bool.and_assoc]

theorem mem_addDrops (re : String → String → Bool) (pats : List StringMatch) (tags drop : List String) (x : String) :
    x ∈ addDrops re pats tags drop ↔ x ∈ drop ∨ (x ∈ tags ∧ ∃ p ∈ pats, p.matches re x = true) := by
  have inner : ∀ (p : StringMatch) (d : List String) (x : String),
      x ∈ tags.foldl (fun d t => if p.matches re t then t :: d else d) d ↔ x ∈ d ∨ (x ∈ tags ∧ p.matches re x = true) := by
    intro p d x
    rw [mem_foldl_acc _ (fun t x => t = x ∧ p.matches re t = true) (fun d t x => by split <;> simp [*, or_comm, eq_comm])]
    simp
  rw [addDrops, mem_foldl_acc _ _ (fun d p x => inner p d x)]
  exact or_congr_right ⟨fun ⟨p, hp, ht, hm⟩ => ⟨ht, p, hp, hm⟩, fun ⟨ht, p, hp, hm⟩ => ⟨p, hp, ht, hm⟩⟩

theorem runFilters_eq (re : String → String → Bool) (name : String) (tags : List String)
    (fs : List Filter) (drop : List String) (src : String) :
    runFilters re name tags fs drop src =
      let as := fs.filter (filterApplies re · name tags)
      if as.any (·.dropMetric) then none
      else some (as.foldl (fun d f => addDrops re f.dropTags tags d) drop, if as.any (·.dropHost) then "" else src) := by
  induction fs generalizing drop src with
  | nil => rfl
  | cons f fs ih =>
    rw [runFilters]
    by_cases ha : filterApplies re f name tags = true
    · rw [if_pos ha, List.filter_cons_of_pos (by simpa using ha)]
      cases hd : f.dropMetric with
      | false =>
        rw [if_neg (by simp), ih]
        cases hh : f.dropHost <;> simp [hd, hh]
      | true => simp [hd]
    · rw [if_neg ha, ih, List.filter_cons_of_neg (by simpa using ha)]

theorem insertSorted_perm (x : String) (l : List String) : (insertSorted x l).Perm (x :: l) := by
  induction l with
  | nil => simp [insertSorted]
  | cons y t ih =>
    simp only [insertSorted]
    split
    · exact List.Perm.refl _
    · exact (List.Perm.cons y ih).trans (List.Perm.swap x y t)

theorem sortTags_perm (l : List String) : (sortTags l).Perm l := by
  induction l with
  | nil => simp [sortTags]
  | cons x t ih => exact (insertSorted_perm x _).trans (List.Perm.cons x ih)

theorem nanoMax_eq (a b : Int) : nanoMax a b = if a < b then b else a := by
  unfold nanoMax; split <;> split <;> omega

theorem gsum_join {α : Type} (x y : Gauge α) (xs ys : List (Gauge α)) (hx : GSum x xs) (hy : GSum y ys) :
    GSum (joinGauge x y) (xs ++ ys) :=
  gsum_pick x y xs ys hx hy (fun h : y.ts > x.ts => Int.le_of_lt h) Int.not_lt.mp

variable {α : Type} [AddCommMonoid α]

theorem joinCounter_eq : joinCounter = mergeCounter := by
  funext x y; simp [joinCounter, mergeCounter, bumpTs, cmp_MergeCounter, nanoMax_eq]
theorem joinTimer_eq : joinTimer (α := α) = mergeTimer := by
  funext x y; simp [joinTimer, mergeTimer, bumpTs, cmp_MergeTimer, nanoMax_eq]
theorem joinSet_eq : joinSet = mergeSet := by
  funext x y; simp [joinSet, mergeSet, bumpTs, cmp_MergeSet, nanoMax_eq]

end Gsd.Tags

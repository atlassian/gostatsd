import Gsd.Proofs.Lemmas.Pipeline
/-! Where series can be: shard locality and "nothing reported that was never sent" (C01). -/
namespace Gsd
open AList
variable {α : Type} [AddCommMonoid α]

def present (m : MM α) (t : MType) (k : Key) : Prop :=
  match t with
  | .counter => (lookup k m.counters).isSome
  | .timer => (lookup k m.timers).isSome
  | .gauge => (lookup k m.gauges).isSome
  | .set => (lookup k m.sets).isSome

namespace Field
variable {ν : Type} (F : Field α ν)

theorem isSome_merge (a b : MM α) (hb : b.WF) (k : Key) :
    (lookup k (F.get (MM.merge a b))).isSome ↔ (lookup k (F.get a)).isSome ∨ (lookup k (F.get b)).isSome := by
  rw [F.lookup_merge a b hb k, optComb_isSome, Bool.or_eq_true]

theorem isSome_of_reset (ex : Key → Bool) (a : MM α) (hw : a.WF) (k : Key)
    (h : (lookup k (F.get (Pipeline.reset ex a))).isSome) : (lookup k (F.get a)).isSome := by
  rw [F.lookup_reset ex a hw k] at h
  cases hl : lookup k (F.get a) with
  | none => rw [hl] at h; exact h
  | some v => rfl

theorem isSome_of_dispatch (h : Key → Nat) (n : Nat) (m : MM α) (hm : m.WF) (w : Nat) (p : MM α)
    (hp : (w, p) ∈ MMap.dispatch h n m) (k : Key) (hk : (lookup k (F.get p)).isSome) :
    h k % n = w ∧ (lookup k (F.get m)).isSome := by
  obtain ⟨hw, hq, _⟩ := (MMap.mem_dispatch h n m w p).mp hp
  have e := F.lookup_split h n m hm w hw k
  rw [hq, Option.getD_some] at e
  rw [e] at hk
  split at hk
  · next e => exact ⟨e, hk⟩
  · cases hk

end Field

theorem present_merge (a b : MM α) (hb : b.WF) (t : MType) (k : Key) :
    present (MM.merge a b) t k ↔ present a t k ∨ present b t k := by
  cases t
  exacts [Field.counters.isSome_merge a b hb k, Field.timers.isSome_merge a b hb k,
    Field.gauges.isSome_merge a b hb k, Field.sets.isSome_merge a b hb k]

omit [AddCommMonoid α] in
theorem present_empty (t : MType) (k : Key) : ¬ present (MM.empty : MM α) t k := by
  cases t <;> simp [present, MM.empty]

theorem present_of_reset (ex : Key → Bool) (a : MM α) (hw : a.WF) (t : MType) (k : Key)
    (h : present (Pipeline.reset ex a) t k) : present a t k := by
  cases t
  exacts [Field.counters.isSome_of_reset ex a hw k h, Field.timers.isSome_of_reset ex a hw k h,
    Field.gauges.isSome_of_reset ex a hw k h, Field.sets.isSome_of_reset ex a hw k h]

theorem present_of_dispatch (h : Key → Nat) (n : Nat) (m : MM α) (hm : m.WF) (w : Nat) (p : MM α)
    (hp : (w, p) ∈ MMap.dispatch h n m) (t : MType) (k : Key) (hk : present p t k) :
    h k % n = w ∧ present m t k := by
  cases t
  exacts [Field.counters.isSome_of_dispatch h n m hm w p hp k hk, Field.timers.isSome_of_dispatch h n m hm w p hp k hk,
    Field.gauges.isSome_of_dispatch h n m hm w p hp k hk, Field.sets.isSome_of_dispatch h n m hm w p hp k hk]

namespace Pipeline

def sent (s : State α) (t : MType) (k : Key) : Prop := ∃ m ∈ s.arrived, present m t k

def KInv (h : Key → Nat) (n : Nat) (s : State α) : Prop :=
  (∀ p ∈ s.pending, ∀ t k, present p.2 t k → h k % n = p.1 ∧ sent s t k) ∧
  (∀ i q, s.queues[i]? = some q → ∀ m ∈ q, ∀ t k, present m t k → h k % n = i ∧ sent s t k) ∧
  (∀ i a, s.aggs[i]? = some a → ∀ t k, present a t k → h k % n = i ∧ sent s t k) ∧
  (∀ p ∈ s.flushed, ∀ t k, present p.2 t k → h k % n = p.1 ∧ sent s t k)

omit [AddCommMonoid α] in
theorem kinv_init (h : Key → Nat) (n : Nat) : KInv h n (init n : State α) := by
  refine ⟨nofun, fun i q hq m hm => ?_, fun i a ha t k hk => ?_, nofun⟩
  · cases (List.mem_replicate.mp (List.mem_of_getElem? hq)).2; cases hm
  · cases (List.mem_replicate.mp (List.mem_of_getElem? ha)).2; exact absurd hk (present_empty t k)

theorem kinv_step (ops : NumOps α) (h : Key → Nat) (n : Nat) (s s' : State α)
    (hinv : Inv n s) (hk : KInv h n s) (hs : Step ops h n s s') : KInv h n s' := by
  obtain ⟨h1, h2, h3, -⟩ := hinv
  obtain ⟨k1, k2, k3, k4⟩ := hk
  cases hs with
  | arrive ds =>
    have mono : ∀ {t k}, sent s t k → ∃ m ∈ s.arrived ++ [MM.receiveAll ops MM.empty ds], present m t k :=
      fun ⟨m, hm, hp⟩ => ⟨m, List.mem_append_left _ hm, hp⟩
    refine ⟨fun p hp t k hpr => ?_, fun i q hq m hm t k hpr => (k2 i q hq m hm t k hpr).imp_right mono,
      fun i a ha t k hpr => (k3 i a ha t k hpr).imp_right mono, fun p hp t k hpr => (k4 p hp t k hpr).imp_right mono⟩
    rcases List.mem_append.mp hp with hp | hp
    · exact (k1 p hp t k hpr).imp_right mono
    · have := present_of_dispatch h n _ (receiveAll_wf ops _ ds empty_wf) p.1 p.2 hp t k hpr
      exact ⟨this.1, _, List.mem_append_right _ (List.mem_singleton_self _), this.2⟩
  | enqueue j i p hj hi =>
    refine ⟨fun q hq => k1 q (List.mem_of_mem_eraseIdx hq), ?_, k3, k4⟩
    exact forall_getElem?_modify k2 i fun q hq m hm t k hpr =>
      (List.mem_append.mp hm).elim (fun hm => k2 i q hq m hm t k hpr)
        fun hm => by cases List.mem_singleton.mp hm; exact k1 _ (List.mem_of_getElem? hj) t k hpr
  | deliver i p rest hq hi =>
    have hp : p.WF := h2 _ (List.mem_of_getElem? hq) p List.mem_cons_self
    refine ⟨k1, forall_getElem?_set k2 i fun m hm => k2 i _ hq m (List.mem_cons_of_mem _ hm), ?_, k4⟩
    exact forall_getElem?_modify k3 i fun a ha t k hpr =>
      ((present_merge a p hp t k).mp hpr).elim (k3 i a ha t k) (k2 i _ hq p List.mem_cons_self t k)
  | flush i ex a ha =>
    refine ⟨k1, k2, ?_, fun p hp => ?_⟩
    · exact forall_getElem?_set k3 i fun t k hpr =>
        k3 i a ha t k (present_of_reset ex a (h3 a (List.mem_of_getElem? ha)) t k hpr)
    · rcases List.mem_append.mp hp with hp | hp
      · exact k4 p hp
      · cases List.mem_singleton.mp hp; exact k3 i a ha

theorem kinv_run (ops : NumOps α) (h : Key → Nat) (n : Nat) (as : List (Action α)) :
    KInv h n (run ops h n (init n) as) :=
  (run_induction (P := fun s => Inv n s ∧ KInv h n s)
    (fun s s' hs hst => ⟨inv_step ops h n s s' hs.1 hst, kinv_step ops h n s s' hs.1 hs.2 hst⟩)
    as _ ⟨inv_init n, kinv_init h n⟩).2

end Pipeline
end Gsd

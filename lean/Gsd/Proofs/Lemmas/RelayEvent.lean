import Gsd.Proofs.Lemmas.Relay
/-! Lemmas for the relay's event round trip.  A written message is a header with two lengths, title and escaped text, and
the optional sections, each behind a `|`: `parseEvent_sections` reduces `parseEvent` on such a message to `evFields` over
the sections, and `evFields_eventFields` reads the sections `eventFields` writes back one by one. -/
namespace Gsd.Backends

/-- formatter hypothesis on `strconv.Itoa`: a non-empty string of decimal digits that `lexUint` reads back -/
structure DecAt (dec : Nat → Line) (n : Nat) : Prop where
  ne : dec n ≠ []
  digits : ∀ ch ∈ dec n, ch.isDigit = true
  val : digitsVal (dec n) 0 = n

def DecOK (dec : Nat → Line) : Prop := ∀ n, DecAt dec n

theorem spanDigits_append (d rest : Line) (hd : ∀ ch ∈ d, ch.isDigit = true)
    (hr : ∀ ch, rest.head? = some ch → ch.isDigit = false) : spanDigits (d ++ rest) = (d, rest) := by
  induction d with
  | nil =>
    cases rest with
    | nil => rfl
    | cons ch t => simp [spanDigits, hr ch (by simp)]
  | cons ch t ih =>
    rw [List.forall_mem_cons] at hd
    simp [spanDigits, hd.1, ih hd.2]

theorem lexNat_dec (dec : Nat → Line) (n : Nat) (h : DecAt dec n) (rest : Line)
    (hr : ∀ ch, rest.head? = some ch → ch.isDigit = false) : lexNat (dec n ++ rest) = some (n, rest) := by
  unfold lexNat
  rw [spanDigits_append _ _ h.digits hr]
  simp [h.ne, h.val]

theorem splitBar_field (f cur rest : Line) (h : ∀ ch ∈ f, ch ≠ '|') :
    splitBar cur (f ++ rest) = splitBar (f.reverse ++ cur) rest := by
  induction f generalizing cur with
  | nil => simp
  | cons ch t ih =>
    rw [List.forall_mem_cons] at h
    simp only [List.cons_append, splitBar, h.1, if_false]
    rw [ih (ch :: cur) h.2]
    simp

theorem splitBar_fields (f : Line) (fs : List Line) (hf : ∀ ch ∈ f, ch ≠ '|') (hfs : ∀ g ∈ fs, ∀ ch ∈ g, ch ≠ '|') :
    splitBar [] (f ++ fs.flatMap (fun g => '|' :: g)) = f :: fs := by
  induction fs generalizing f with
  | nil =>
    have := splitBar_field f [] [] hf
    simp only [List.append_nil] at this
    simp [this, splitBar]
  | cons g gs ih =>
    rw [List.forall_mem_cons] at hfs
    rw [splitBar_field f [] _ hf]
    simp only [List.flatMap_cons, List.cons_append, splitBar, if_true, List.append_nil, List.reverse_reverse]
    rw [ih g hfs.1 hfs.2]

def NoBSN : Line → Prop
  | [] => True
  | [_] => True
  | a :: b :: t => ¬ (a = '\\' ∧ b = 'n') ∧ NoBSN (b :: t)

theorem head_escNL (t : Line) : (escNL t).head? = t.head?.map (fun ch => if ch = '\n' then '\\' else ch) := by
  cases t with
  | nil => rfl
  | cons a r => by_cases e : a = '\n' <;> simp [escNL, e]

theorem unescNL_cons (a : Char) (l : Line) (h : ¬ (a = '\\' ∧ l.head? = some 'n')) : unescNL (a :: l) = a :: unescNL l := by
  cases l with
  | nil => rfl
  | cons b t => rw [unescNL, if_neg (by simpa using h)]

theorem unescNL_escNL (t : Line) (h : NoBSN t) : unescNL (escNL t) = t := by
  induction t with
  | nil => rfl
  | cons a r ih =>
    have ihr : unescNL (escNL r) = r := ih (by cases r with | nil => trivial | cons b t => exact h.2)
    by_cases e : a = '\n'
    · subst e; rw [escNL, if_pos rfl, unescNL, if_pos ⟨rfl, rfl⟩, ihr]
    · rw [escNL, if_neg e, unescNL_cons, ihr]
      -- `escNL r` starts with `n` only if `r` does, and then `a` is no backslash
      rw [head_escNL]
      rintro ⟨ha, hb⟩
      cases r with
      | nil => cases hb
      | cons b t =>
        refine h.1 ⟨ha, ?_⟩
        by_cases eb : b = '\n' <;> simp [eb] at hb
        exact hb

theorem evFields_append (a b : List Line) (st : Event × Bool) :
    evFields (a ++ b) st = (evFields a st).bind (evFields b) := by
  induction a generalizing st with
  | nil => simp [evFields]
  | cons f fs ih =>
    simp only [List.cons_append, evFields]
    cases evField st f with
    | none => simp
    | some st' => simp [ih]

theorem filter_ne_nil_self (tags : List Line) (h : ∀ a ∈ tags, a ≠ []) : tags.filter (fun a => a ≠ []) = tags := by
  rw [List.filter_eq_self]
  intro a ha
  simpa using h a ha

structure EventOK (e : Event) : Prop where
  text : NoBSN e.text
  host : ∀ ch ∈ e.host, ch ≠ '|'
  agg : ∀ ch ∈ e.aggKey, ch ≠ '|'
  src : ∀ ch ∈ e.srcType, ch ≠ '|'
  pri : e.pri ≤ 1
  alert : e.alert ≤ 3
  tags_sep : ∀ a ∈ e.tags, NoSep a
  tags_ne : ∀ a ∈ e.tags, a ≠ []

/-- an optional section of `eventFields`: written when the field differs from its default, and then read back as that
field; a field left at its default is what the lexer starts from -/
theorem evFields_opt {α : Type} (v d : α) [Decidable (v ≠ d)] (f : Line) (st st' : Event)
    (hpos : v ≠ d → evField (st, false) f = some (st', false)) (hneg : v = d → st' = st) :
    evFields (if v ≠ d then [f] else []) (st, false) = some (st', false) := by
  split
  · next h => simp [evFields, hpos h]
  · next h => simp [evFields, hneg (Classical.not_not.1 h)]

theorem evField_date (dec : Nat → Line) (n : Nat) (hd : DecAt dec n) (st : Event) :
    evField (st, false) ('d' :: ':' :: dec n) = some ({ st with date := n }, false) := by
  simp only [evField, Bool.false_eq_true, if_false, ne_eq, hd.ne, not_false_eq_true, true_and, List.all_eq_true.2 hd.digits,
    if_true, hd.val]

theorem evField_pri (p : Nat) (hp : p ≤ 1) (h0 : p ≠ 0) (st : Event) :
    evField (st, false) ('p' :: ':' :: priText p) = some ({ st with pri := p }, false) := by
  obtain rfl : p = 1 := by omega
  rfl

theorem evField_alert (a : Nat) (ha : a ≤ 3) (h0 : a ≠ 0) (st : Event) :
    evField (st, false) ('t' :: ':' :: alertText a) = some ({ st with alert := a }, false) := by
  obtain rfl | rfl | rfl : a = 1 ∨ a = 2 ∨ a = 3 := by omega
  all_goals rfl

theorem evField_tags (tags : List Line) (hns : ∀ a ∈ tags, NoSep a) (hne : ∀ a ∈ tags, a ≠ []) (st : Event)
    (h0 : st.tags = []) :
    evField (st, false) ('#' :: joinCommaL tags) = some ({ st with tags := tags }, false) := by
  simp only [evField, Bool.false_eq_true, if_false, lexTags_join_end tags hns, filter_ne_nil_self tags hne, h0,
    List.nil_append]

theorem evFields_eventFields (dec : Nat → Line) (e : Event) (hd : DecAt dec e.date) (h : EventOK e) :
    evFields (eventFields dec e) ({ title := e.title, text := e.text }, false) = some (e, false) := by
  unfold eventFields
  simp only [evFields_append]
  -- one step per optional section, in the order `eventFields` writes them; host, aggregation key and source type
  -- are read back by computation
  rw [evFields_opt _ _ _ _ _ (fun _ => evField_date dec _ hd _) (fun h => by simp only [h]),
    Option.bind_some, evFields_opt _ _ _ _ _ (fun _ => rfl) (fun h => by simp only [h]),
    Option.bind_some, evFields_opt _ _ _ _ _ (fun _ => rfl) (fun h => by simp only [h]),
    Option.bind_some, evFields_opt _ _ _ _ _ (fun _ => rfl) (fun h => by simp only [h]),
    Option.bind_some, evFields_opt _ _ _ _ _ (evField_pri _ h.pri · _) (fun h => by simp only [h]),
    Option.bind_some, evFields_opt _ _ _ _ _ (evField_alert _ h.alert · _) (fun h => by simp only [h]),
    Option.bind_some, evFields_opt _ _ _ _ _ (fun _ => evField_tags _ h.tags_sep h.tags_ne _ rfl) (fun h => by simp only [h])]

theorem forall_mem_opt {b : Prop} [Decidable b] {f : Line} {P : Line → Prop} :
    (∀ g ∈ (if b then [f] else []), P g) ↔ (b → P f) := by
  split <;> simp [*]

theorem priText_noBar (n : Nat) : ∀ ch ∈ priText n, ch ≠ '|' := by
  -- `unfold`, never `simp [priText]`: generating the equations `priText 1 = "low".toList` … evaluates the string
  -- literals in the elaborator, seconds each
  unfold priText
  split <;> (rw [String.toList_ofList]; decide)

theorem alertText_noBar (n : Nat) : ∀ ch ∈ alertText n, ch ≠ '|' := by
  unfold alertText
  split <;> (rw [String.toList_ofList]; decide)

theorem joinCommaL_noBar (tags : List Line) (h : ∀ a ∈ tags, NoSep a) : ∀ ch ∈ joinCommaL tags, ch ≠ '|' := by
  induction tags with
  | nil => intro ch hch; simp [joinCommaL] at hch
  | cons a t ih =>
    rw [List.forall_mem_cons] at h
    intro ch hch
    cases t with
    | nil => exact (h.1 ch hch).2
    | cons b t' =>
      simp only [joinCommaL, List.mem_append, List.mem_cons] at hch
      rcases hch with hch | rfl | hch
      · exact (h.1 ch hch).2
      · decide
      · exact ih h.2 ch hch

theorem eventFields_noBar (dec : Nat → Line) (e : Event) (hd : DecAt dec e.date) (h : EventOK e) :
    ∀ g ∈ eventFields dec e, ∀ ch ∈ g, ch ≠ '|' := by
  have hdig : ∀ ch ∈ dec e.date, ch ≠ '|' := fun ch hch e' => absurd (hd.digits ch hch) (by rw [e']; decide)
  unfold eventFields
  simp only [List.forall_mem_append, forall_mem_opt, List.forall_mem_cons, ne_eq, Char.reduceEq, not_false_eq_true, true_and]
  exact ⟨⟨⟨⟨⟨⟨fun _ => hdig, fun _ => h.host⟩, fun _ => h.agg⟩, fun _ => h.src⟩, fun _ => priText_noBar _⟩,
    fun _ => alertText_noBar _⟩, fun _ => joinCommaL_noBar _ h.tags_sep⟩

theorem parseEvent_sections (dec : Nat → Line) (T X : Line) (F : List Line)
    (hT : DecAt dec T.length) (hX : DecAt dec X.length) (hF : ∀ g ∈ F, ∀ ch ∈ g, ch ≠ '|') :
    parseEvent ('_' :: 'e' :: '{' :: (dec T.length ++ ',' :: (dec X.length ++ '}' :: ':' ::
        (T ++ '|' :: (X ++ F.flatMap (fun f => '|' :: f)))))) =
      (evFields F ({ title := T, text := unescNL X }, false)).map (·.1) := by
  generalize hR : F.flatMap (fun f => '|' :: f) = R
  unfold parseEvent
  simp only
  rw [lexNat_dec dec _ hT _ (by intro ch hch; simp at hch; subst hch; decide)]
  simp only
  rw [lexNat_dec dec _ hX _ (by intro ch hch; simp at hch; subst hch; decide)]
  simp only
  rw [if_neg (by simp; omega), if_neg (by simp), ← List.drop_drop, List.drop_length_add_append]
  simp only [List.drop_succ_cons, List.drop_zero, List.take_left', List.drop_left']
  subst hR
  cases F with
  | nil => rfl
  | cons f fs =>
    rw [List.forall_mem_cons] at hF
    simp only [List.flatMap_cons, List.cons_append]
    rw [splitBar_fields f fs hF.1 hF.2]

end Gsd.Backends

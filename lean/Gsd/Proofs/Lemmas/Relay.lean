import Gsd.Proofs.Lemmas.Backends
/-! Lemmas for the relay round trip: the lexer model applied to what `relayBody` writes. -/
namespace Gsd.Backends

theorem isNameChar_ne {ch : Char} (h : isNameChar ch = true) : ch ≠ ':' ∧ ch ≠ '/' ∧ ch ≠ ' ' ∧ ch ≠ '\t' := by
  refine ⟨?_, ?_, ?_, ?_⟩ <;> (intro e; subst e; revert h; decide)

theorem lexName_name (name rest : Line) (h : ∀ ch ∈ name, isNameChar ch = true) :
    lexName (name ++ ':' :: rest) = some (name, rest) := by
  induction name with
  | nil => simp [lexName]
  | cons ch t ih =>
    rw [List.forall_mem_cons] at h
    obtain ⟨h1, h2, h3, h4⟩ := isNameChar_ne h.1
    simp only [List.cons_append, lexName, h1, if_false, ih h.2, h2, h3, h4, h.1, if_true, Bool.or_self, decide_false,
      Bool.false_eq_true]

theorem untilCh_stop (stop : Char) (v rest : Line) (h : ∀ ch ∈ v, ch ≠ stop) :
    untilCh stop (v ++ stop :: rest) = (v, some rest) := by
  induction v with
  | nil => simp [untilCh]
  | cons ch t ih =>
    rw [List.forall_mem_cons] at h
    simp [untilCh, h.1, ih h.2]

theorem untilCh_end (stop : Char) (v : Line) (h : ∀ ch ∈ v, ch ≠ stop) : untilCh stop v = (v, none) := by
  induction v with
  | nil => simp [untilCh]
  | cons ch t ih =>
    rw [List.forall_mem_cons] at h
    simp [untilCh, h.1, ih h.2]

theorem lexTags_tag (a cur rest : Line) (h : ∀ ch ∈ a, ch ≠ ',' ∧ ch ≠ '|') :
    lexTags cur (a ++ rest) = lexTags (a.reverse ++ cur) rest := by
  induction a generalizing cur with
  | nil => simp
  | cons ch t ih =>
    rw [List.forall_mem_cons] at h
    simp only [List.cons_append, lexTags, h.1.1, h.1.2, if_false]
    rw [ih (ch :: cur) h.2]
    simp

theorem lexTags_snd_none (cur l : Line) (h : ∀ ch ∈ l, ch ≠ '|') : (lexTags cur l).2 = none := by
  induction l generalizing cur with
  | nil => simp [lexTags]
  | cons ch r ih =>
    rw [List.forall_mem_cons] at h
    by_cases e : ch = ','
    · simp [lexTags, e, ih _ h.2]
    · simp [lexTags, e, h.1, ih _ h.2]

def NoSep (a : Line) : Prop := ∀ ch ∈ a, ch ≠ ',' ∧ ch ≠ '|'

theorem lexTags_comma (rest : Line) : lexTags [] (',' :: rest) = lexTags [] rest := by simp [lexTags]

theorem lexTags_one (a rest : Line) (ha : NoSep a) (hrest : rest = [] ∨ ∃ r, rest = ',' :: r) :
    lexTags [] (a ++ rest) = ((if a = [] then [] else [a]) ++ (lexTags [] rest).1, (lexTags [] rest).2) := by
  rw [lexTags_tag a [] rest ha]
  rcases hrest with rfl | ⟨r, rfl⟩ <;> by_cases e : a = [] <;> simp [lexTags, e]

theorem lexTags_join (tags : List Line) (rest : Line) (h : ∀ a ∈ tags, NoSep a) (hrest : rest = [] ∨ ∃ r, rest = ',' :: r) :
    lexTags [] (joinCommaL tags ++ rest) =
      (tags.filter (fun a => a ≠ []) ++ (lexTags [] rest).1, (lexTags [] rest).2) := by
  induction tags with
  | nil => simp [joinCommaL]
  | cons a t ih =>
    rw [List.forall_mem_cons] at h
    cases t with
    | nil =>
      rw [joinCommaL, lexTags_one a rest h.1 hrest]
      by_cases e : a = [] <;> simp [e]
    | cons b t' =>
      rw [joinCommaL, List.append_assoc, List.cons_append, lexTags_one a _ h.1 (Or.inr ⟨_, rfl⟩), lexTags_comma, ih h.2]
      by_cases e : a = [] <;> simp [e]

theorem lexTags_join_end (tags : List Line) (h : ∀ a ∈ tags, NoSep a) :
    lexTags [] (joinCommaL tags) = (tags.filter (fun a => a ≠ []), none) := by
  simpa [lexTags] using lexTags_join tags [] h (Or.inl rfl)

theorem lexTags_tagsKeyOf (tags : List Line) (source : Line) (h : ∀ a ∈ tags, NoSep a) (hs : NoSep source) :
    lexTags [] (tagsKeyOf tags source) =
      (tags.filter (fun a => a ≠ []) ++ (if source = [] then [] else ['s' :: ':' :: source]), none) := by
  unfold tagsKeyOf
  split
  · simp [lexTags_join_end tags h]
  · have hs' : NoSep ('s' :: ':' :: source) :=
      List.forall_mem_cons.mpr ⟨by decide, List.forall_mem_cons.mpr ⟨by decide, hs⟩⟩
    have := lexTags_one _ [] hs' (Or.inl rfl)
    rw [List.append_nil] at this
    rw [lexTags_join tags _ h (Or.inr ⟨_, rfl⟩), lexTags_comma, this]
    simp [lexTags, *]

def tyText : MType → Line
  | .c => ['c'] | .g => ['g'] | .ms => ['m', 's'] | .s => ['s']

theorem lexTypeAttrs_plain (name value : Line) (t : MType) :
    lexTypeAttrs name value (tyText t) = some { name, value, ty := t, tags := [] } := by
  cases t <;> rfl

theorem lexTypeAttrs_tags (name value tagsKey : Line) (t : MType) (h : ∀ ch ∈ tagsKey, ch ≠ '|') :
    lexTypeAttrs name value (tyText t ++ '|' :: '#' :: tagsKey) =
      some { name, value, ty := t, tags := (lexTags [] tagsKey).1 } := by
  cases t <;> simp [tyText, lexTypeAttrs, lexTypeAttrs.after, lexAttrs, lexTags_snd_none [] tagsKey h]

theorem parseLine_relayBody (noTags : Bool) (name value tagsKey : Line) (t : MType)
    (hne : name ≠ []) (hname : ∀ ch ∈ name, isNameChar ch = true)
    (hvalue : ∀ ch ∈ value, ch ≠ '|') (htags : ∀ ch ∈ tagsKey, ch ≠ '|') :
    parseLine (relayBody noTags name value (tyText t) tagsKey) =
      some { name, value, ty := t, tags := if tagsKey = [] || noTags then [] else (lexTags [] tagsKey).1 } := by
  unfold parseLine relayBody
  rw [lexName_name name _ hname]
  simp only [hne, if_false]
  rw [untilCh_stop '|' value _ hvalue]
  by_cases e : (tagsKey = [] || noTags) = true
  · simp only [e, if_true, List.append_nil]
    exact lexTypeAttrs_plain name value t
  · simp only [e]
    exact lexTypeAttrs_tags name value tagsKey t htags

theorem relayLine_pos (c : Cfg) (view : List Series) : ∀ l ∈ relayAll c view, 0 < l.length := by
  intro l hl
  unfold relayAll at hl
  simp only [List.mem_flatMap, List.mem_filter] at hl
  obtain ⟨k, _, s, _, hl⟩ := hl
  unfold relayLines at hl
  have key : ∀ a b d e f, 0 < (relayLine a b d e f).length := by intros; simp [relayLine]
  generalize s.kind = kind at hl
  cases kind with
  | counter =>
    dsimp only at hl
    split at hl
    · simp at hl
    · simp at hl; subst hl; exact key ..
  | timer => simp only [List.mem_map] at hl; obtain ⟨v, _, rfl⟩ := hl; exact key ..
  | gauge => simp at hl; subst hl; exact key ..
  | set => simp only [List.mem_map] at hl; obtain ⟨v, _, rfl⟩ := hl; exact key ..

theorem dropLast_relayLine (a : Bool) (n v t k : Line) : (relayLine a n v t k).dropLast = relayBody a n v t k := by
  simp [relayLine]

end Gsd.Backends

import Gsd.Model.Backends
/-! For C17: the batching loops (for **all** lists, open batches and sizes), and the sub-metric identities of `emit`
and `expand`: what a series yields in each backend is its key with a list of sub-metrics (`subs`), and that list holds
exactly the enabled ones (`enabled`), each once. -/
namespace Gsd.Backends

section batching
variable {α : Type}

theorem flatten_countBatches (n : Nat) (l cur : List α) : (countBatches n l cur).flatten = cur ++ l := by
  induction l generalizing cur with
  | nil => rw [countBatches]; split <;> simp_all
  | cons x xs ih => rw [countBatches]; split <;> simp [ih]

theorem length_countBatches (n : Nat) (l cur : List α) (hcur : cur.length < n) :
    ∀ b ∈ countBatches n l cur, b.length ≤ n ∧ 0 < b.length := by
  induction l generalizing cur with
  | nil => rw [countBatches]; split <;> simp; omega
  | cons x xs ih =>
    have hx : (cur ++ [x]).length = cur.length + 1 := by simp
    rw [countBatches]; split
    · exact List.forall_mem_cons.mpr ⟨by omega, ih [] (Nat.zero_lt_of_lt hcur)⟩
    · exact ih _ (by omega)

theorem full_countBatches (n : Nat) (l cur : List α) (hcur : cur.length < n) :
    ∀ b ∈ (countBatches n l cur).dropLast, b.length = n := by
  induction l generalizing cur with
  | nil => rw [countBatches]; split <;> simp
  | cons x xs ih =>
    have hx : (cur ++ [x]).length = cur.length + 1 := by simp
    rw [countBatches]; split
    · intro b hb
      cases hrest : countBatches n xs [] with
      | nil => simp [hrest] at hb
      | cons r rs =>
        rw [hrest, List.dropLast_cons_cons] at hb
        rcases List.mem_cons.mp hb with rfl | hb
        · omega
        · exact ih [] (Nat.zero_lt_of_lt hcur) b (hrest ▸ hb)
    · exact ih _ (by omega)

theorem flatten_slackBatches (slack n : Nat) (gs : List (List α)) (cur : List α) :
    (slackBatches slack n gs cur).flatten = cur ++ gs.flatten := by
  induction gs generalizing cur with
  | nil => rw [slackBatches]; split <;> simp_all
  | cons g gs ih => rw [slackBatches]; split <;> simp [ih]

/-- datadog / newrelic never split the records of one series over two requests: the batches are
concatenations of whole groups -/
theorem slackBatches_groups (slack n : Nat) (gs : List (List α)) (cur : List α) (pre : List (List α))
    (hpre : pre.flatten = cur) :
    ∃ parts : List (List (List α)), parts.flatten = pre ++ gs ∧
      ∀ b ∈ slackBatches slack n gs cur, ∃ p ∈ parts, p.flatten = b := by
  induction gs generalizing cur pre with
  | nil => exact ⟨[pre], by simp, by rw [slackBatches]; split <;> simp [hpre]⟩
  | cons g gs ih =>
    rw [slackBatches]; split
    · obtain ⟨parts, hp, hb⟩ := ih [] [] rfl
      exact ⟨(pre ++ [g]) :: parts, by simp [hp], List.forall_mem_cons.mpr
        ⟨⟨_, List.mem_cons_self, by simp [hpre]⟩, fun b hmem => (hb b hmem).imp fun p h => ⟨List.mem_cons_of_mem _ h.1, h.2⟩⟩⟩
    · obtain ⟨parts, hp, hb⟩ := ih (cur ++ g) (pre ++ [g]) (by simp [hpre])
      exact ⟨parts, by simpa using hp, hb⟩

theorem flatten_otlpBatches (n : Nat) (l cur : List α) : (otlpBatches n l cur).flatten = cur ++ l := by
  induction l generalizing cur with
  | nil => simp [otlpBatches]
  | cons x xs ih => rw [otlpBatches]; split <;> simp [ih]

theorem length_otlpBatches (n : Nat) (l cur : List α) (hcur : cur.length < n) :
    ∀ b ∈ otlpBatches n l cur, b.length ≤ n := by
  induction l generalizing cur with
  | nil => simpa [otlpBatches] using Nat.le_of_lt hcur
  | cons x xs ih =>
    have hx : (cur ++ [x]).length = cur.length + 1 := by simp
    rw [otlpBatches]; split
    · exact List.forall_mem_cons.mpr ⟨by omega, ih [] (Nat.zero_lt_of_lt hcur)⟩
    · exact ih _ (by omega)

theorem flatten_cwGo (k : Nat) (hk : 1 ≤ k) (fuel : Nat) (l : List α) (h : l.length ≤ fuel) :
    (cwGo k fuel l).flatten = l := by
  induction fuel generalizing l with
  | zero => rw [List.length_eq_zero_iff.mp (Nat.le_zero.mp h)]; rfl
  | succ f ih =>
    rw [cwGo]; split
    · next h0 => rw [List.length_eq_zero_iff.mp (by omega : l.length = 0)]; rfl
    · rw [List.flatten_cons, ih _ (by rw [List.length_drop]; omega), List.take_append_drop]

theorem length_cwGo (k : Nat) (hk : 1 ≤ k) (fuel : Nat) (l : List α) : ∀ b ∈ cwGo k fuel l, b.length ≤ k ∧ 0 < b.length := by
  induction fuel generalizing l with
  | zero => simp [cwGo]
  | succ f ih =>
    rw [cwGo]; split
    · simp
    · exact List.forall_mem_cons.mpr ⟨by rw [List.length_take]; omega, ih _⟩

theorem totalLen_append (len : α → Nat) (a b : List α) : totalLen len (a ++ b) = totalLen len a + totalLen len b := by
  simp [totalLen]

theorem flatten_packBatches (len : α → Nat) (P : Nat) (l cur : List α) (hpos : ∀ x ∈ cur ++ l, 0 < len x) :
    (packBatches len P l cur).flatten = cur ++ l := by
  induction l generalizing cur with
  | nil =>
    rw [packBatches]; split
    · simp
    · -- a line in the open datagram would give it a positive length
      cases cur with
      | nil => rfl
      | cons a t => have := hpos a (by simp); simp [totalLen] at *; omega
  | cons x xs ih =>
    rw [packBatches]; split
    · rw [List.flatten_cons, ih [x] fun y hy => hpos y (by simp at hy ⊢; exact Or.inr hy)]; simp
    · rw [ih (cur ++ [x]) (by simpa using hpos)]; simp

theorem totalLen_packBatches (len : α → Nat) (P : Nat) (l cur : List α) :
    ((packBatches len P l cur).map (totalLen len)).sum = totalLen len cur + totalLen len l := by
  induction l generalizing cur with
  | nil => rw [packBatches]; split <;> simp [totalLen] at * <;> omega
  | cons x xs ih => rw [packBatches]; split <;> simp [ih, totalLen] <;> omega

theorem limit_packBatches (len : α → Nat) (P : Nat) (l cur : List α)
    (hcur : totalLen len cur ≤ P ∨ cur.length ≤ 1) :
    ∀ d ∈ packBatches len P l cur, totalLen len d ≤ P ∨ d.length ≤ 1 := by
  induction l generalizing cur with
  | nil => rw [packBatches]; split <;> simp [hcur]
  | cons x xs ih =>
    rw [packBatches]; split
    · exact List.forall_mem_cons.mpr ⟨hcur, ih [x] (Or.inr (Nat.le_refl 1))⟩
    · next h => exact ih _ (Or.inl (by simp [totalLen] at h ⊢; omega))

/-- When an over-long line comes first, the still empty buffer is handed over in front of it, as `writeLine` in
statsdaemon.go does: `packBatches id 10 [12, 3] [] = [[], [12], [3]]`. -/
theorem packBatches_overlong_alone (len : α → Nat) (P : Nat) (l cur : List α)
    (hcur : ∀ x ∈ cur, P < len x → cur = [x]) :
    ∀ d ∈ packBatches len P l cur, ∀ x ∈ d, P < len x → d = [x] := by
  induction l generalizing cur with
  | nil => rw [packBatches]; split <;> simp; exact hcur
  | cons y ys ih =>
    rw [packBatches]; split
    · exact List.forall_mem_cons.mpr ⟨hcur, ih [y] (by simp)⟩
    · next h =>
      -- `y` fits behind what the datagram holds: neither it nor (unless it is the first) any line before it is over-long
      have htot : totalLen len cur + len y ≤ P := by omega
      refine ih (cur ++ [y]) fun x hx hlong => ?_
      rcases List.mem_append.mp hx with hx | hx
      · rw [hcur x hx hlong] at htot; simp [totalLen] at htot; omega
      · obtain rfl : x = y := by simpa using hx
        cases cur with
        | nil => rfl
        | cons a t => omega

end batching

def ids (rs : List Record) : List (Key × Sub) := rs.map (fun r => (r.key, r.sub))

/-- the backends that share the statsd naming scheme (otlp when timers are converted to gauges) -/
def StdBackend (c : Cfg) : Prop :=
  c.backend = .datadog ∨ c.backend = .influxdb ∨ c.backend = .graphite ∨ c.backend = .cloudwatch ∨
  c.backend = .stdout ∨ (c.backend = .otlp ∧ c.otlpHist = false)

/-- which sub-metrics the property calls enabled -/
def enabled (c : Cfg) (s : Series) (x : Sub) : Bool :=
  match c.backend with
  | .statsdaemon => enabledRelay s x
  | .newrelic => enabledNr c s x
  | .otlp => enabledOtlp c s x
  | _ => enabledStd c.mask s x

theorem enabled_std (c : Cfg) (hc : StdBackend c) (s : Series) (x : Sub) : enabled c s x = enabledStd c.mask s x := by
  unfold enabled
  rcases hc with h | h | h | h | h | ⟨h, hg⟩ <;> rw [h]
  simp [enabledOtlp, hg]

theorem enabled_newrelic (c : Cfg) (hc : c.backend = .newrelic) (s : Series) (x : Sub) : enabled c s x = enabledNr c s x := by
  unfold enabled; rw [hc]

theorem enabled_otlp (c : Cfg) (hc : c.backend = .otlp) (s : Series) (x : Sub) : enabled c s x = enabledOtlp c s x := by
  unfold enabled; rw [hc]

theorem enabled_relay (c : Cfg) (hc : c.backend = .statsdaemon) (s : Series) (x : Sub) : enabled c s x = enabledRelay s x := by
  unfold enabled; rw [hc]

/-- the mask is honoured (identities other than the nine aggregations are never masked, by definition of `Mask.dis`) -/
theorem enabledStd_not_dis {m : Mask} {s : Series} {x : Sub} (h : enabledStd m s x = true) : m.dis x = false := by
  unfold enabledStd at h
  generalize s.kind = k at h
  cases k with
  | counter => simp only [Bool.or_eq_true, decide_eq_true_eq] at h; rcases h with rfl | rfl <;> rfl
  | gauge => simp only [decide_eq_true_eq] at h; subst h; rfl
  | set => simp only [decide_eq_true_eq] at h; subst h; rfl
  | timer =>
    generalize s.hist = o at h
    cases o with
    | some bs =>
      dsimp only at h
      split at h
      · rfl
      · cases h
    | none =>
      simp only [Bool.or_eq_true, Bool.and_eq_true, Bool.not_eq_true'] at h
      rcases h with ⟨_, h⟩ | h
      · exact h
      · split at h
        · rfl
        · cases h

/-- … for New Relic with the documented exception: the four statistics inside the Metric API `summary` metric -/
theorem enabledNr_not_dis {c : Cfg} {s : Series} {x : Sub} (h : enabledNr c s x = true)
    (hns : c.nrMode = .metrics → nrInSummary x = false) : c.mask.dis x = false := by
  unfold enabledNr at h
  generalize s.kind = k at h
  cases k with
  | counter => simp only [Bool.or_eq_true, decide_eq_true_eq] at h; rcases h with rfl | rfl <;> rfl
  | gauge => simp only [decide_eq_true_eq] at h; subst h; rfl
  | set => simp only [decide_eq_true_eq] at h; subst h; rfl
  | timer =>
    generalize s.hist = o at h
    cases o with
    | some bs =>
      dsimp only at h
      split at h
      · rfl
      · rfl
      · cases h
    | none =>
      simp only [Bool.or_eq_true] at h
      rcases h with h | h
      · split at h
        · next hm =>
          simp only [hns hm, Bool.false_or, Bool.and_eq_true, Bool.not_eq_true'] at h
          exact h.2
        · simp only [Bool.or_eq_true, Bool.and_eq_true, Bool.not_eq_true', decide_eq_true_eq] at h
          rcases h with rfl | ⟨_, h⟩
          · rfl
          · exact h
      · split at h
        · rfl
        · cases h

theorem enabledNr_summary {c : Cfg} (hm : c.nrMode = .metrics) {x : Sub} (hx : nrInSummary x = true) (s : Series) :
    enabledNr c s x = true ↔ s.kind = .timer ∧ s.hist = none := by
  have hne (y : Sub) (hy : nrInSummary y = false) : x ≠ y := fun e => by rw [e, hy] at hx; cases hx
  have hagg : x ∈ timerSubs := by
    have : ((x = .lower ∨ x = .upper) ∨ x = .tcount) ∨ x = .sum := by simpa [nrInSummary] using hx
    rcases this with ((rfl | rfl) | rfl) | rfl <;> decide
  unfold enabledNr
  cases s.kind
  case counter => simp [hne .count rfl, hne .rate rfl]
  case timer =>
    cases s.hist <;> dsimp only
    · simp [hm, hx, hagg]
    · split
      · cases hx
      · cases hx
      · simp
  all_goals simp [hne .value rfl]

macro "count_std_tac" x:ident : tactic => `(tactic| (
  first
  | (cases $x:ident <;> simp [rec0, List.count_cons])
  ))

/-! Every `…Emit` builds its records from literals, `imap` and `plainTimer`; within a family of backends the `sub` fields
form the same list, up to the order in which a backend happens to write a counter's two records or a bucket's two records. -/

abbrev indexed (mk : Nat → Sub) (n : Nat) : List Sub := (List.range' 0 n).map mk

theorem ids_imap {α : Type} (f : Nat → α → Record) (k : Key) (mk : Nat → Sub)
    (h : ∀ j a, ((f j a).key, (f j a).sub) = (k, mk j)) (n : Nat) (l : List α) :
    ids (imap f n l) = ((List.range' n l.length).map mk).map (Prod.mk k) := by
  induction l generalizing n with
  | nil => rfl
  | cons a t ih => simp [ids] at ih; simp [imap, ids, ih, List.range'_succ, h]

/-- two records per entry (New Relic histogram buckets: count and per-second companion) -/
theorem ids_imap_pair {α : Type} (r1 r2 : Nat → α → Record) (k : Key) (mk1 mk2 : Nat → Sub)
    (h1 : ∀ j a, ((r1 j a).key, (r1 j a).sub) = (k, mk1 j)) (h2 : ∀ j a, ((r2 j a).key, (r2 j a).sub) = (k, mk2 j))
    (n : Nat) (l : List α) :
    (ids (imap (fun j a => [r1 j a, r2 j a]) n l).flatten).Perm
      (((List.range' n l.length).map mk1 ++ (List.range' n l.length).map mk2).map (Prod.mk k)) := by
  induction l generalizing n with
  | nil => exact .refl _
  | cons a t ih =>
    have ih := ih (n + 1)
    rw [List.map_append] at ih
    simpa [imap, ids, List.range'_succ, h1, h2] using ((ih.cons (k, mk2 n)).trans List.perm_middle.symm).cons (k, mk1 n)

def plainSubs (dis : Sub → Bool) (s : Series) : List Sub :=
  timerSubs.filter (fun x => !dis x) ++ indexed .pct s.pcts.length

theorem ids_plainTimer (s : Series) (dis : Sub → Bool) (mk : Sub → Record) (mkP : Nat → Pct → Record)
    (hmk : ∀ x, ((mk x).key, (mk x).sub) = (s.key, x)) (hmkP : ∀ j p, ((mkP j p).key, (mkP j p).sub) = (s.key, .pct j)) :
    ids (plainTimer s dis mk mkP) = (plainSubs dis s).map (Prod.mk s.key) := by
  have := ids_imap mkP s.key .pct hmkP 0 s.pcts
  simp [ids] at this
  simp [ids, plainTimer, plainSubs, Function.comp_def, hmk, this]

def stdSubs (m : Mask) (s : Series) : List Sub :=
  match s.kind with
  | .counter => [.count, .rate]
  | .timer =>
    match s.hist with
    | some bs => indexed .bucket bs.length
    | none => plainSubs m.dis s
  | .gauge => [.value]
  | .set => [.value]

/-- The shape the emitters of the statsd family share; the six arguments `C B A P G S` are what differs between
them (names, kinds, values, tags), and none of it touches the identities. -/
theorem ids_stdShape (s : Series) (m : Mask) (C : List Record) (B : Nat → Bucket → Record) (A : Sub → Record)
    (P : Nat → Pct → Record) (G S : Record)
    (hC : (ids C).Perm [(s.key, .count), (s.key, .rate)])
    (hB : ∀ j b, ((B j b).key, (B j b).sub) = (s.key, .bucket j))
    (hA : ∀ x, ((A x).key, (A x).sub) = (s.key, x)) (hP : ∀ j p, ((P j p).key, (P j p).sub) = (s.key, .pct j))
    (hG : (G.key, G.sub) = (s.key, .value)) (hS : (S.key, S.sub) = (s.key, .value)) :
    (ids (match s.kind with
      | .counter => C
      | .timer => (match s.hist with | some bs => imap B 0 bs | none => plainTimer s m.dis A P)
      | .gauge => [G]
      | .set => [S])).Perm ((stdSubs m s).map (Prod.mk s.key)) := by
  unfold stdSubs
  cases s.kind with
  | counter => exact hC
  | timer =>
    cases s.hist with
    | none => exact .of_eq (ids_plainTimer s _ _ _ hA hP)
    | some bs => exact .of_eq (ids_imap _ s.key .bucket hB ..)
  | gauge => exact .of_eq (congrArg (· :: []) hG)
  | set => exact .of_eq (congrArg (· :: []) hS)

def otlpSubs (c : Cfg) (s : Series) : List Sub :=
  if c.otlpHist then (match s.kind with | .counter => [.count, .rate] | .timer => [.summary] | _ => [.value])
  else stdSubs c.mask s

theorem ids_otlpEmit (c : Cfg) (s : Series) : (ids (otlpEmit c s)).Perm ((otlpSubs c s).map (Prod.mk s.key)) := by
  unfold otlpEmit otlpSubs stdSubs
  cases s.kind <;> cases c.otlpHist
  case counter.false | counter.true => exact .swap ..
  case timer.false =>
    cases s.hist with
    | none => exact .of_eq (ids_plainTimer s _ _ _ (fun _ => rfl) (fun _ _ => rfl))
    | some bs => exact .of_eq (ids_imap _ s.key .bucket (fun _ _ => rfl) ..)
  all_goals rfl

def nrSubs (c : Cfg) (s : Series) : List Sub :=
  match s.kind with
  | .counter => [.count, .rate]
  | .gauge => [.value]
  | .set => [.value]
  | .timer =>
    match s.hist with
    | some bs => indexed .bucket bs.length ++ indexed .bucketPs bs.length
    | none =>
      match c.nrMode with
      | .metrics => plainSubs (fun x => if nrInSummary x then false else c.mask.dis x) s
      | _ => .summary :: plainSubs c.mask.dis s

theorem ids_nrEmit (c : Cfg) (s : Series) : (ids (nrEmit c s)).Perm ((nrSubs c s).map (Prod.mk s.key)) := by
  unfold nrEmit nrSubs
  cases c.nrMode <;> cases s.kind
  case infra.timer | insights.timer =>
    cases s.hist with
    | none => exact .of_eq (congrArg (List.cons _) (ids_plainTimer s _ _ _ (fun _ => rfl) (fun _ _ => rfl)))
    | some bs => exact ids_imap_pair _ _ s.key .bucket .bucketPs (fun _ _ => rfl) (fun _ _ => rfl) ..
  case metrics.timer =>
    cases s.hist with
    | none => exact .of_eq (ids_plainTimer s _ _ _ (fun _ => by split <;> rfl) (fun _ _ => rfl))
    | some bs =>
      exact (ids_imap_pair _ _ s.key .bucketPs .bucket (fun _ _ => rfl) (fun _ _ => rfl) ..).trans
        (List.perm_append_comm.map _)
  case metrics.counter => exact .swap ..
  all_goals rfl

def relaySubs (s : Series) : List Sub :=
  match s.kind with
  | .counter => if hasPrefix "statsd." s.name then [] else [.count]
  | .timer => indexed .tval s.values.length
  | .gauge => [.value]
  | .set => indexed .member s.members.length

theorem ids_relayEmit (c : Cfg) (s : Series) : (ids (relayEmit c s)).Perm ((relaySubs s).map (Prod.mk s.key)) := by
  unfold relayEmit relaySubs
  cases s.kind <;> dsimp only
  case counter => split <;> rfl
  case timer => exact .of_eq (ids_imap _ s.key .tval (fun _ _ => rfl) ..)
  case gauge => rfl
  case set => exact .of_eq (ids_imap _ s.key .member (fun _ _ => rfl) ..)

def subs (c : Cfg) (s : Series) : List Sub :=
  match c.backend with
  | .statsdaemon => relaySubs s
  | .newrelic => nrSubs c s
  | .otlp => otlpSubs c s
  | _ => stdSubs c.mask s

theorem ids_emit (c : Cfg) (s : Series) : (ids (emit c s)).Perm ((subs c s).map (Prod.mk s.key)) := by
  unfold emit subs
  cases c.backend
  case datadog =>
    exact ids_stdShape s c.mask _ _ _ _ _ _ (.swap ..) (fun _ _ => rfl) (fun _ => rfl) (fun _ _ => rfl) rfl rfl
  case graphite =>
    exact ids_stdShape s c.mask _ _ _ _ _ _ (by split <;> rfl) (fun _ _ => rfl) (fun _ => rfl) (fun _ _ => rfl) rfl rfl
  case influxdb | cloudwatch | stdout =>
    exact ids_stdShape s c.mask _ _ _ _ _ _ (.refl _) (fun _ _ => rfl) (fun _ => rfl) (fun _ _ => rfl) rfl rfl
  case newrelic => exact ids_nrEmit c s
  case otlp => exact ids_otlpEmit c s
  case statsdaemon => exact ids_relayEmit c s

theorem count_indexed (mk : Nat → Sub) (hinj : ∀ i j, mk i = mk j → i = j) (n j : Nat) :
    (indexed mk n).count (mk j) = if j < n then 1 else 0 := by
  have hnd : (indexed mk n).Nodup := List.Pairwise.map mk (fun _ _ hne h => hne (hinj _ _ h)) List.nodup_range'
  rw [hnd.count]
  congr 1
  simp only [indexed, List.mem_map, List.mem_range'_1, Nat.zero_le, Nat.zero_add, true_and, eq_iff_iff]
  exact ⟨fun ⟨i, hi, e⟩ => hinj _ _ e ▸ hi, fun h => ⟨j, h, rfl⟩⟩

theorem count_indexed_other (mk : Nat → Sub) (x : Sub) (hx : ∀ j, mk j ≠ x) (n : Nat) : (indexed mk n).count x = 0 :=
  List.count_eq_zero.2 fun h => by
    obtain ⟨j, _, e⟩ := List.mem_map.1 h
    exact hx j e

theorem count_single (a x : Sub) : [a].count x = if decide (x = a) then 1 else 0 := by
  by_cases h : x = a
  · simp [h]
  · simp [h, Ne.symm h]

theorem count_pair {a b : Sub} (hab : a ≠ b) (x : Sub) : [a, b].count x = if decide (x = a) || decide (x = b) then 1 else 0 := by
  by_cases ha : x = a
  · subst ha; simp [hab, Ne.symm hab]
  · by_cases hb : x = b
    · subst hb; simp [hab, Ne.symm hab]
    · simp [ha, hb, Ne.symm ha, Ne.symm hb]

theorem count_plainSubs (dis : Sub → Bool) (s : Series) (x : Sub) :
    (plainSubs dis s).count x =
      if (timerSubs.contains x && !dis x) || (match x with | .pct j => decide (j < s.pcts.length) | _ => false) then 1 else 0 := by
  have hnd : (timerSubs.filter fun y => !dis y).Nodup := (by decide : timerSubs.Nodup).filter _
  have hagg (y : Sub) : (timerSubs.filter fun y => !dis y).count y = if timerSubs.contains y && !dis y then 1 else 0 := by
    rw [hnd.count]; simp
  rw [plainSubs, List.count_append]
  split
  · rw [hagg, count_indexed _ (fun _ _ h => Sub.pct.inj h)]; simp [timerSubs]
  · next hx => rw [hagg, count_indexed_other _ _ (fun j e => hx j e.symm), Nat.add_zero, Bool.or_false]

theorem count_stdSubs (m : Mask) (s : Series) (x : Sub) :
    (stdSubs m s).count x = if enabledStd m s x then 1 else 0 := by
  unfold stdSubs enabledStd
  cases s.kind with
  | counter => exact count_pair (by decide) x
  | timer =>
    cases s.hist <;> dsimp only
    case none => exact count_plainSubs ..
    case some bs =>
      split
      · rw [count_indexed _ (fun _ _ h => Sub.bucket.inj h)]; simp
      · next hx => exact count_indexed_other _ _ (fun j e => hx j e.symm) _
  | gauge => exact count_single ..
  | set => exact count_single ..

theorem count_otlpSubs (c : Cfg) (s : Series) (x : Sub) :
    (otlpSubs c s).count x = if enabledOtlp c s x then 1 else 0 := by
  unfold otlpSubs enabledOtlp
  split
  · unfold enabledOtlpHist
    cases s.kind
    case counter => exact count_pair (by decide) x
    all_goals exact count_single ..
  · exact count_stdSubs ..

theorem count_nrSubs (c : Cfg) (s : Series) (x : Sub) :
    (nrSubs c s).count x = if enabledNr c s x then 1 else 0 := by
  unfold nrSubs enabledNr
  cases s.kind with
  | counter => exact count_pair (by decide) x
  | timer =>
    cases s.hist <;> dsimp only
    case none =>
      cases c.nrMode
      case metrics => rw [count_plainSubs]; cases nrInSummary x <;> rfl
      all_goals
        rw [List.count_cons, count_plainSubs]
        by_cases hx : x = .summary
        · subst hx; rfl
        · simp only [beq_iff_eq, Ne.symm hx, hx, if_false, Nat.add_zero, decide_false, Bool.false_or]; rfl
    case some bs =>
      rw [List.count_append]
      split
      · rw [count_indexed _ (fun _ _ h => Sub.bucket.inj h), count_indexed_other _ _ (by simp)]; simp
      · rw [count_indexed _ (fun _ _ h => Sub.bucketPs.inj h), count_indexed_other _ _ (by simp)]; simp
      · next hb hp =>
        rw [count_indexed_other _ _ (fun j e => hb j e.symm), count_indexed_other _ _ (fun j e => hp j e.symm)]; rfl
  | gauge => exact count_single ..
  | set => exact count_single ..

theorem count_relaySubs (s : Series) (x : Sub) :
    (relaySubs s).count x = if enabledRelay s x then 1 else 0 := by
  unfold relaySubs enabledRelay
  cases s.kind <;> dsimp only
  case counter =>
    split
    · next h => simp [h]
    · next h => simpa [h] using count_single .count x
  case timer =>
    split
    · rw [count_indexed _ (fun _ _ h => Sub.tval.inj h)]; simp
    · next hx => exact count_indexed_other _ _ (fun j e => hx j e.symm) _
  case gauge => exact count_single ..
  case set =>
    split
    · rw [count_indexed _ (fun _ _ h => Sub.member.inj h)]; simp
    · next hx => exact count_indexed_other _ _ (fun j e => hx j e.symm) _

theorem count_subs (c : Cfg) (s : Series) (x : Sub) : (subs c s).count x = if enabled c s x then 1 else 0 := by
  unfold subs enabled
  cases c.backend
  case statsdaemon => exact count_relaySubs ..
  case newrelic => exact count_nrSubs ..
  case otlp => exact count_otlpSubs ..
  all_goals exact count_stdSubs ..

theorem count_map_mk (k k' : Key) (x : Sub) (l : List Sub) :
    (l.map (Prod.mk k')).count (k, x) = if k' = k then l.count x else 0 := by
  induction l with
  | nil => simp
  | cons y t ih => by_cases e : k' = k <;> simp_all [List.count_cons]

theorem count_ids_emit (c : Cfg) (s : Series) (k : Key) (x : Sub) :
    (ids (emit c s)).count (k, x) = if s.key = k ∧ enabled c s x then 1 else 0 := by
  rw [(ids_emit c s).count_eq, count_map_mk, count_subs]
  by_cases e : s.key = k <;> simp [e]

theorem sum_by_class {α κ : Type} [DecidableEq κ] (f : α → κ) (g : α → Nat) (ks : List κ) (hks : ∀ k, ks.count k = 1)
    (l : List α) : (ks.map fun k => ((l.filter fun a => f a = k).map g).sum).sum = (l.map g).sum := by
  have hone (k0 : κ) (n : Nat) : (ks.map fun k => if k0 = k then n else 0).sum = ks.count k0 * n := by
    clear hks
    induction ks with
    | nil => simp
    | cons k t ih =>
      by_cases e : k0 = k
      · subst e; simp [ih, Nat.add_mul, Nat.add_comm]
      · simp [e, Ne.symm e, ih]
  have hadd (p q : κ → Nat) : (ks.map fun k => p k + q k).sum = (ks.map p).sum + (ks.map q).sum := by
    clear hks hone
    induction ks with
    | nil => rfl
    | cons k t ih => simp only [List.map_cons, List.sum_cons, ih]; omega
  induction l with
  | nil => exact List.sum_eq_zero_iff_forall_eq_nat.2 (by simp)
  | cons a t ih =>
    have hcons (k : κ) : (((a :: t).filter fun a => f a = k).map g).sum =
        (if f a = k then g a else 0) + ((t.filter fun a => f a = k).map g).sum := by
      by_cases e : f a = k <;> simp [e]
    simp only [hcons, hadd, ih, hone, hks, List.map_cons, List.sum_cons, Nat.one_mul]

theorem count_order (b : Backend) (k : Kind) : (order b).count k = 1 := by
  cases b <;> cases k <;> rfl

theorem expand_eq (c : Cfg) (view : List Series) :
    expand c view = (order c.backend).flatMap fun k => (view.filter fun s => s.kind = k).flatMap (emit c) := by
  simp [expand, groups, List.flatMap_def, List.flatten_flatten, Function.comp_def]

theorem count_expand (c : Cfg) (view : List Series) (a : Key × Sub) :
    (ids (expand c view)).count a = (view.map (fun s => (ids (emit c s)).count a)).sum := by
  rw [← sum_by_class Series.kind _ _ (count_order c.backend), expand_eq, ids]
  simp only [List.map_flatMap, List.count_flatMap, Function.comp_def, ids]

theorem sum_indicator (view : List Series) (hnd : (view.map Series.key).Nodup) (k : Key) (p : Series → Bool) :
    (view.map (fun s => if s.key = k ∧ p s then 1 else 0)).sum =
      if view.any (fun s => decide (s.key = k) && p s) then 1 else 0 := by
  induction view with
  | nil => rfl
  | cons s t ih =>
    obtain ⟨hs, ht⟩ := List.nodup_cons.mp hnd
    rw [List.map_cons, List.sum_cons, List.any_cons, ih ht]
    by_cases e : s.key = k
    · have hnone : t.any (fun s' => decide (s'.key = k) && p s') = false :=
        List.any_eq_false.mpr fun s' hs' => by
          have : s'.key ≠ k := fun e' => hs (List.mem_map.mpr ⟨s', hs', e'.trans e.symm⟩)
          simp [this]
      cases p s <;> simp [e, hnone]
    · simp [e]
end Gsd.Backends

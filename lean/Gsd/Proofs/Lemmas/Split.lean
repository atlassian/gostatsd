import Gsd.Model.Split
import Gsd.Proofs.Lemmas.AList
/-! `MetricMap.Split`: the pieces of one typed sub-map (`splitInto`), piece `i` of the whole map as the four `i`-th
pieces, and which pieces `DispatchMetricMap` hands on.  Core-only. -/
namespace Gsd
open AList

section splitInto
variable {κ ν : Type} [DecidableEq κ]

theorem look_splitStep (h : κ → Nat) (n i : Nat) (k : κ) (ps : List (AList κ ν)) (e : κ × ν) :
    (ps.modify (h e.1 % n) (upsert e.1 fun _ => e.2))[i]?.map (lookup k) =
      if e.1 = k then (ps[i]?.map (lookup k)).map (fun r => if h k % n = i then some e.2 else r)
      else ps[i]?.map (lookup k) := by
  rw [List.getElem?_modify]
  cases ps[i]? with
  | none => simp
  | some a =>
    by_cases hk : e.1 = k
    · subst hk; by_cases hb : h e.1 % n = i <;> simp [hb, lookup_upsert]
    · by_cases hb : h e.1 % n = i <;> simp [hb, hk, lookup_upsert]

theorem lookup_splitInto (h : κ → Nat) (n : Nat) (m : AList κ ν) (hm : NodupKeys m) (i : Nat) (hi : i < n) (k : κ) :
    lookup k ((splitInto h n m)[i]?.getD []) = if h k % n = i then lookup k m else none := by
  have key := look_foldl _ (fun ps : List (AList κ ν) => ps[i]?.map (lookup k)) k
    (fun v o => o.map fun r => if h k % n = i then some v else r) (look_splitStep h n i k) hm
    (List.replicate n [])
  simp only [List.getElem?_replicate, hi, if_true, Option.map_some, lookup_nil] at key
  rw [splitInto, ← Option.getD_map (lookup k), key]
  cases lookup k m
  · exact (ite_self _).symm
  · rfl

theorem nodupKeys_splitInto (h : κ → Nat) (n : Nat) (m : AList κ ν) (i : Nat) :
    NodupKeys ((splitInto h n m)[i]?.getD []) := by
  have hall : ∀ p ∈ splitInto h n m, NodupKeys p :=
    List.foldlRecOn (motive := fun ps => ∀ p ∈ ps, NodupKeys p) m _
      (fun p hp => (List.mem_replicate.mp hp).2 ▸ nodupKeys_nil)
      fun _ hps _ _ => forall_mem_modify hps _ fun p hp => nodupKeys_upsert _ _ (hps p hp)
  cases hp : (splitInto h n m)[i]? with
  | none => exact nodupKeys_nil
  | some p => exact hall p (List.mem_of_getElem? hp)

end splitInto

namespace MMap
variable {κ C T G S : Type} [DecidableEq κ]

theorem length_split (h : κ → Nat) (n : Nat) (m : MMap κ C T G S) : (m.split h n).length = n := by
  simp [MMap.split]

theorem getD_split (h : κ → Nat) (n : Nat) (m : MMap κ C T G S) {i : Nat} (hi : i < n) :
    (m.split h n)[i]?.getD {} =
      { counters := (splitInto h n m.counters)[i]?.getD [], timers := (splitInto h n m.timers)[i]?.getD [],
        gauges := (splitInto h n m.gauges)[i]?.getD [], sets := (splitInto h n m.sets)[i]?.getD [] } := by
  simp only [MMap.split, List.getElem?_map, List.getElem?_range hi, Option.map_some, Option.getD_some]

theorem lookup_split (h : κ → Nat) (n : Nat) (m : MMap κ C T G S) (hm : m.WF) (i : Nat) (hi : i < n) (k : κ) :
    lookup k ((m.split h n)[i]?.getD {}).counters = (if h k % n = i then lookup k m.counters else none) ∧
    lookup k ((m.split h n)[i]?.getD {}).timers   = (if h k % n = i then lookup k m.timers   else none) ∧
    lookup k ((m.split h n)[i]?.getD {}).gauges   = (if h k % n = i then lookup k m.gauges   else none) ∧
    lookup k ((m.split h n)[i]?.getD {}).sets     = (if h k % n = i then lookup k m.sets     else none) := by
  rw [getD_split h n m hi]
  exact ⟨lookup_splitInto h n _ hm.1 i hi k, lookup_splitInto h n _ hm.2.1 i hi k,
         lookup_splitInto h n _ hm.2.2.1 i hi k, lookup_splitInto h n _ hm.2.2.2 i hi k⟩

theorem split_wf (h : κ → Nat) (n : Nat) (m : MMap κ C T G S) (i : Nat) (hi : i < n) :
    ((m.split h n)[i]?.getD {}).WF := by
  rw [getD_split h n m hi]
  exact ⟨nodupKeys_splitInto .., nodupKeys_splitInto .., nodupKeys_splitInto .., nodupKeys_splitInto ..⟩

theorem dispatch_eq (h : κ → Nat) (n : Nat) (m : MMap κ C T G S) :
    m.dispatch h n = ((List.range n).map fun i => (i, (m.split h n)[i]?.getD {})).filter (fun p => !p.2.isEmpty) := by
  rw [List.map_congr_left fun i hi => by rw [getD_split h n m (List.mem_range.mp hi)]]
  simp only [dispatch, split, List.zip_eq_zipWith, List.zipWith_map_right, List.zipWith_self]

theorem mem_dispatch (h : κ → Nat) (n : Nat) (m : MMap κ C T G S) (w : Nat) (p : MMap κ C T G S) :
    (w, p) ∈ m.dispatch h n ↔ (w < n ∧ (m.split h n)[w]? = some p ∧ p.isEmpty = false) := by
  simp only [dispatch_eq, List.mem_filter, List.mem_map, List.mem_range, Prod.mk.injEq, Bool.not_eq_eq_eq_not,
    Bool.not_true]
  constructor
  · rintro ⟨⟨i, hi, rfl, rfl⟩, he⟩
    have hl : i < (m.split h n).length := by rwa [length_split]
    exact ⟨hi, by rw [List.getElem?_eq_getElem hl]; rfl, he⟩
  · rintro ⟨hw, hp, he⟩
    exact ⟨⟨w, hw, rfl, by rw [hp]; rfl⟩, he⟩

theorem dispatch_wf (h : κ → Nat) (n : Nat) (m : MMap κ C T G S) (p : Nat × MMap κ C T G S) (hp : p ∈ m.dispatch h n) :
    p.2.WF ∧ p.1 < n := by
  rw [dispatch_eq] at hp
  obtain ⟨i, hi, rfl⟩ := List.mem_map.mp (List.mem_filter.mp hp).1
  exact ⟨split_wf h n m i (List.mem_range.mp hi), List.mem_range.mp hi⟩

omit [DecidableEq κ] in
theorem isEmpty_iff (p : MMap κ C T G S) :
    p.isEmpty = true ↔ p.counters = [] ∧ p.timers = [] ∧ p.gauges = [] ∧ p.sets = [] := by
  simp [isEmpty, and_assoc]

end MMap
end Gsd

import Gsd.Model.Sender
import Batteries.Data.List.Perm
import Gsd.Proofs.Lemmas.List
/-! C16: the inductive invariants of the sender automaton (with its shutdown scripts), of the collector and of the
flusher's wait group; the influxdb buffer semaphore and the cloudwatch loop. -/
namespace Gsd.Sender

theorem goInner_eq (cfg : Cfg) (s : St) (c : Nat) : goInner cfg s c =
    { s with pc := if c < cfg.max then (match s.held with | none => .recvStream c | some _ => .recvBuf c) else .dial } := by
  unfold goInner; split
  · split <;> simp_all
  · rfl

theorem refresh_eq (cfg : Cfg) (s : St) : refresh cfg s =
    { s with
      armed := match s.held with | none => true | some _ => if cfg.fixSink then false else s.armed
      scancel := match s.held with | none => (if cfg.fixCancel then none else s.scancel) | some j => some j } := by
  unfold refresh; split <;> simp_all

theorem goInner_pc (cfg : Cfg) (s : St) (c : Nat) :
    (goInner cfg s c).pc = if c < cfg.max then (match s.held with | none => .recvStream c | some _ => .recvBuf c) else .dial := by
  rw [goInner_eq]

theorem goInner_closed (cfg : Cfg) (s : St) (c : Nat) : (goInner cfg s c).closed = s.closed := by rw [goInner_eq]
theorem goInner_cancelled (cfg : Cfg) (s : St) (c : Nat) : (goInner cfg s c).cancelled = s.cancelled := by rw [goInner_eq]
theorem goInner_ctxDone (cfg : Cfg) (s : St) (c : Nat) : (goInner cfg s c).ctxDone = s.ctxDone := by rw [goInner_eq]
theorem refresh_closed (cfg : Cfg) (s : St) : (refresh cfg s).closed = s.closed := by rw [refresh_eq]
theorem refresh_cancelled (cfg : Cfg) (s : St) : (refresh cfg s).cancelled = s.cancelled := by rw [refresh_eq]
theorem refresh_ctxDone (cfg : Cfg) (s : St) : (refresh cfg s).ctxDone = s.ctxDone := by rw [refresh_eq]

/-- The graph of `step`.  Every target state is written as an update of `s`
(`refresh` and `callback` computed, `goInner` only through its `pc`), so that what a step leaves alone is left alone by
`rfl` in the invariant proofs below. -/
inductive Step (cfg : Cfg) (s : St) : St → Prop
  | connOk (hpc : s.pc = .dial) : Step cfg s { s with pc := (goInner cfg s 0).pc }
  | connFailIdle (hpc : s.pc = .dial) (hh : s.held = none) :
      Step cfg s { s with pc := .wait, armed := true, scancel := if cfg.fixCancel then none else s.scancel }
  | connFailHeld {j} (hpc : s.pc = .dial) (hh : s.held = some j) :
      Step cfg s { s with pc := .wait, scancel := some j, armed := if cfg.fixSink then false else s.armed }
  | timer (hpc : s.pc = .wait) : Step cfg s { s with pc := .dial }
  | offer (h1 : s.pc ≠ .stopped) (h2 : s.pc ≠ .panicked) :
      Step cfg s { s with queue := s.queue ++ [s.next], next := s.next + 1 }
  | takeStream {j q c} (hq : s.queue = j :: q) (hpc : s.pc = .recvStream c) :
      Step cfg s { s with queue := q, held := some j, pc := .recvBuf c }
  | takeWait {j q} (hq : s.queue = j :: q) (hpc : s.pc = .wait) (ha : s.armed = true) :
      Step cfg s { s with queue := q, armed := false, scancel := some j, held := some j, lost := s.lost ++ s.held.toList }
  | wroteOk {c j} (hpc : s.pc = .recvBuf c) (hh : s.held = some j) (hcl : j ∉ s.closed) : Step cfg s s
  | wroteFail {c j} (hpc : s.pc = .recvBuf c) (hh : s.held = some j) (hcl : j ∉ s.closed) :
      Step cfg s { s with errs := s.errs ++ [.write], pc := .dial, wfail := s.wfail ++ [j] }
  | closeBuf {j} (hlt : j < s.next) (hcl : j ∉ s.closed) : Step cfg s { s with closed := j :: s.closed }
  | seeClosed {c j} (hpc : s.pc = .recvBuf c) (hh : s.held = some j) (hcl : j ∈ s.closed) :
      Step cfg s { s with cbs := s.cbs ++ [⟨j, s.errs, .drained⟩], held := none, errs := [],
                          pc := (goInner cfg { s with held := none } (c + 1)).pc }
  | cancelStream {j} (hlt : j < s.next) (hc : j ∉ s.cancelled) : Step cfg s { s with cancelled := j :: s.cancelled }
  | panic {j} (hpc : s.pc = .wait) (hsc : s.scancel = some j) (hc : j ∈ s.cancelled) (hh : s.held = none) :
      Step cfg s { s with pc := .panicked }
  | seeStreamCancel {j h} (hpc : s.pc = .wait) (hsc : s.scancel = some j) (hc : j ∈ s.cancelled) (hh : s.held = some h) :
      Step cfg s { s with cbs := s.cbs ++ [⟨h, s.errs ++ [.sctx], .cancelled⟩], held := none, errs := [],
                          armed := true, scancel := none }
  | cancelCtx (hd : s.ctxDone = false) : Step cfg s { s with ctxDone := true }
  | seeCtx (hd : s.ctxDone = true) (hpc : (∃ c, s.pc = .recvStream c) ∨ s.pc = .wait) :
      Step cfg s (exit { s with errs := s.errs ++ [.ctx] })

theorem Step.of_step {cfg : Cfg} {s s' : St} {e : Ev} (h : step cfg s e = some s') : Step cfg s s' := by
  -- one goal per enabled branch, in the order of the constructors (`seeCtx` twice)
  cases e <;> simp only [step] at h <;> (repeat' split at h) <;> cases h
  · simpa [goInner_eq] using Step.connOk (cfg := cfg) ‹_›
  · cases hh : s.held with
    | none => simpa [refresh, hh] using Step.connFailIdle (cfg := cfg) ‹_› hh
    | some j => simpa [refresh, hh] using Step.connFailHeld (cfg := cfg) ‹_› hh
  · exact .timer ‹_›
  · next h => exact .offer (fun h' => h (.inl h')) (fun h' => h (.inr h'))
  · exact .takeStream ‹_› ‹_›
  · simpa [refresh] using Step.takeWait (cfg := cfg) ‹_› ‹_› ‹_›
  · exact .wroteOk ‹_› ‹_› ‹_›
  · exact .wroteFail ‹_› ‹_› ‹_›
  · next h => exact .closeBuf h.1 h.2
  · simpa [goInner_eq, callback] using Step.seeClosed (cfg := cfg) ‹_› ‹_› ‹_›
  · next h => exact .cancelStream h.1 h.2
  · exact .panic ‹_› ‹_› ‹_› ‹_›
  · simpa [refresh, callback] using Step.seeStreamCancel (cfg := cfg) ‹_› ‹_› ‹_› ‹_›
  · next h => exact .cancelCtx (Bool.eq_false_iff.mpr h)
  · exact .seeCtx ‹_› (.inl ⟨_, ‹_›⟩)
  · exact .seeCtx ‹_› (.inr ‹_›)

@[simp] theorem cbCountL_nil (k : Nat) : cbCountL [] k = 0 := rfl
theorem cbCountL_append (a b : List Cb) (k : Nat) : cbCountL (a ++ b) k = cbCountL a k + cbCountL b k := by
  simp [cbCountL]
theorem cbCountL_singleton (j : Nat) (es v) (k : Nat) : cbCountL [⟨j, es, v⟩] k = if j = k then 1 else 0 := by
  by_cases h : j = k <;> simp [cbCountL, h]
theorem cbCountL_map (q : List Nat) (es v) (k : Nat) :
    cbCountL (q.map (fun j => (⟨j, es, v⟩ : Cb))) k = q.count k := by
  simp [cbCountL, List.filter_map, List.count_eq_length_filter, Function.comp_def]
theorem cbCountL_eq_zero {cbs : List Cb} {j : Nat} (h : cbCountL cbs j = 0) : ∀ cb ∈ cbs, cb.stream ≠ j := by
  simpa [cbCountL] using h

structure Inv1 (s : St) : Prop where
  places : ∀ j, places s j = if j < s.next then 1 else 0
  pcBuf : ∀ c, s.pc = .recvBuf c → s.held.isSome
  pcStream : ∀ c, s.pc = .recvStream c → s.held = none
  stopped : s.pc = .stopped → s.held = none ∧ s.queue = []
  panicked : s.pc = .panicked → s.held = none

theorem places_exit (s : St) (j : Nat) : places (exit s) j = places s j := by
  simp only [places, exit, cbCountL_append, cbCountL_map]
  cases hh : s.held with
  | none => simp; omega
  | some h => simp [cbCountL_singleton]; by_cases hj : h = j <;> simp [hj] <;> omega

theorem count_toList (o : Option Nat) (k : Nat) : o.toList.count k = if o = some k then 1 else 0 := by
  cases o <;> simp [List.count_singleton]

theorem places_offer {s : St} (hp : ∀ k, places s k = if k < s.next then 1 else 0) (k : Nat) :
    places { s with queue := s.queue ++ [s.next], next := s.next + 1 } k = if k < s.next + 1 then 1 else 0 := by
  have := hp k
  simp only [places, List.count_append, List.count_singleton, beq_iff_eq] at this ⊢
  by_cases hk : s.next = k
  · subst hk; simp only [Nat.lt_irrefl, Nat.lt_succ_self, if_true, if_false] at this ⊢; omega
  · simp only [hk, if_false, show (k < s.next + 1 ↔ k < s.next) by omega] at this ⊢; omega

theorem places_take {s t : St} {j : Nat} {q : List Nat} (hp : ∀ k, places s k = if k < s.next then 1 else 0)
    (hq : s.queue = j :: q) (h1 : t.held = some j) (h2 : t.queue = q) (h3 : t.lost = s.lost ++ s.held.toList)
    (h4 : t.cbs = s.cbs) (h5 : t.next = s.next) (k : Nat) : places t k = if k < t.next then 1 else 0 := by
  rw [h5, ← hp k]
  simp only [places, h1, h2, h3, h4, hq, List.count_cons, List.count_append, beq_iff_eq, Option.some.injEq, count_toList]
  omega

theorem places_release {s t : St} {h : Nat} {es : List Err} {v : Via} (hp : ∀ k, places s k = if k < s.next then 1 else 0)
    (hh : s.held = some h) (h1 : t.held = none) (h2 : t.queue = s.queue) (h3 : t.lost = s.lost)
    (h4 : t.cbs = s.cbs ++ [⟨h, es, v⟩]) (h5 : t.next = s.next) (k : Nat) : places t k = if k < t.next then 1 else 0 := by
  rw [h5, ← hp k]
  simp only [places, hh, h1, h2, h3, h4, cbCountL_append, cbCountL_singleton, Option.some.injEq, reduceCtorEq, if_false]
  omega

theorem inv1_of_places {s : St} (hp : ∀ j, places s j = if j < s.next then 1 else 0)
    (hpc : s.pc = .dial ∨ s.pc = .wait ∨ (s.held = none ∧ ∃ c, s.pc = .recvStream c) ∨
      (s.held.isSome ∧ ∃ c, s.pc = .recvBuf c)) : Inv1 s := by
  refine ⟨hp, ?_, ?_, ?_, ?_⟩ <;> rcases hpc with h | h | ⟨_, c, h⟩ | ⟨_, c, h⟩ <;> simp [*]

theorem goInner_pc_cases (cfg : Cfg) (s : St) (c : Nat) :
    (goInner cfg s c).pc = .dial ∨ (goInner cfg s c).pc = .wait ∨ (s.held = none ∧ ∃ c', (goInner cfg s c).pc = .recvStream c') ∨
      (s.held.isSome ∧ ∃ c', (goInner cfg s c).pc = .recvBuf c') := by
  rw [goInner_pc]; split
  · split <;> simp [*]
  · simp

theorem inv1_step {cfg : Cfg} {s s' : St} {e : Ev} (hi : Inv1 s) (h : step cfg s e = some s') : Inv1 s' := by
  obtain ⟨hp, hb, hs, hst, hpa⟩ := hi
  cases Step.of_step h with
  | connOk => exact inv1_of_places hp (goInner_pc_cases cfg s 0)
  | connFailIdle | connFailHeld => exact inv1_of_places hp (.inr (.inl rfl))
  | timer | wroteFail => exact inv1_of_places hp (.inl rfl)
  | wroteOk | closeBuf | cancelStream | cancelCtx => exact ⟨hp, hb, hs, hst, hpa⟩
  | panic _ _ _ hh => exact ⟨hp, nofun, nofun, nofun, fun _ => hh⟩
  | offer h1 => exact ⟨places_offer hp, hb, hs, fun h => absurd h h1, hpa⟩
  | takeStream hq hpc =>
    exact inv1_of_places (places_take hp hq rfl rfl (by simp [hs _ hpc]) rfl rfl) (.inr (.inr (.inr ⟨rfl, _, rfl⟩)))
  | takeWait hq hpc =>
    exact inv1_of_places (places_take hp hq rfl rfl rfl rfl rfl) (.inr (.inl hpc))
  | @seeClosed c j _ hh =>
    exact inv1_of_places (places_release hp hh rfl rfl rfl rfl rfl) (goInner_pc_cases cfg { s with held := none } (c + 1))
  | seeStreamCancel hpc _ _ hh =>
    exact inv1_of_places (places_release hp hh rfl rfl rfl rfl rfl) (.inr (.inl hpc))
  | seeCtx =>
    exact ⟨fun j => (places_exit _ j).trans (hp j), by simp [exit], by simp [exit], by simp [exit], by simp [exit]⟩

def Inv2 (s : St) : Prop := s.lost = [] ∧ (s.pc = .wait → s.held.isSome → s.armed = false)
def Inv3 (s : St) : Prop := s.pc ≠ .panicked ∧ (s.pc = .wait → s.held = none → s.scancel = none)

theorem goInner_pc_ne (cfg : Cfg) (s : St) (c : Nat) :
    (goInner cfg s c).pc ≠ .wait ∧ (goInner cfg s c).pc ≠ .panicked := by
  rw [goInner_pc]; split
  · split <;> simp
  · simp

theorem inv2_step {cfg : Cfg} {s s' : St} {e : Ev} (hf : cfg.fixSink = true) (hi : Inv2 s)
    (h : step cfg s e = some s') : Inv2 s' := by
  obtain ⟨hl, ha⟩ := hi
  cases Step.of_step h with
  | takeWait hq hpc harm =>
    -- `sink` is armed in the wait loop only while no stream is held, so nothing is overwritten
    have hh : s.held = none := by
      cases hh : s.held with
      | none => rfl
      | some _ => simp [ha hpc (by simp [hh])] at harm
    exact ⟨by simp [hl, hh], fun _ _ => rfl⟩
  | connFailHeld => exact ⟨hl, fun _ _ => by simp [hf]⟩
  | connFailIdle _ hh | seeStreamCancel => exact ⟨hl, fun _ h => by simp_all⟩
  | connOk | seeClosed => exact ⟨hl, fun h => absurd h (goInner_pc_ne ..).1⟩
  | seeCtx => exact ⟨hl, fun h => by simp [exit] at h⟩
  | timer | takeStream | wroteFail | panic => exact ⟨hl, nofun⟩
  | offer | wroteOk | closeBuf | cancelStream | cancelCtx => exact ⟨hl, ha⟩

theorem inv3_step {cfg : Cfg} {s s' : St} {e : Ev} (hf : cfg.fixCancel = true) (hi : Inv3 s)
    (h : step cfg s e = some s') : Inv3 s' := by
  obtain ⟨hl, ha⟩ := hi
  cases Step.of_step h with
  -- the nil dereference needs a `streamCancel` left over while nothing is held
  | panic hpc hsc _ hh => simp [ha hpc hh] at hsc
  | connFailIdle => exact ⟨nofun, fun _ _ => by simp [hf]⟩
  | connFailHeld _ hh => exact ⟨nofun, fun _ h => by simp_all⟩
  | takeWait | seeStreamCancel => exact ⟨hl, fun _ h => by simp_all⟩
  | connOk | seeClosed => exact ⟨(goInner_pc_ne ..).2, fun h => absurd h (goInner_pc_ne ..).1⟩
  | seeCtx => exact ⟨by simp [exit], fun h => by simp [exit] at h⟩
  | timer | takeStream | wroteFail => exact ⟨nofun, nofun⟩
  | offer | wroteOk | closeBuf | cancelStream | cancelCtx => exact ⟨hl, ha⟩

/-- A write error seen while a stream was held is in the list the stream is, or will be, called back with, because
`errs` is only reset together with `held`. -/
structure Inv4 (s : St) : Prop where
  wfailCb : ∀ cb ∈ s.cbs, cb.stream ∈ s.wfail → Err.write ∈ cb.errs
  wfailHeld : ∀ j, s.held = some j → j ∈ s.wfail → Err.write ∈ s.errs
  wfailQueue : ∀ j ∈ s.wfail, j ∉ s.queue ∧ j < s.next
  viaErr : ∀ cb ∈ s.cbs, cb.via ≠ .drained → cb.errs ≠ []

theorem held_facts {s : St} (hp : ∀ j, places s j = if j < s.next then 1 else 0) {j : Nat} (hh : s.held = some j) :
    j < s.next ∧ j ∉ s.queue ∧ (∀ cb ∈ s.cbs, cb.stream ≠ j) := by
  have := hp j
  simp only [places, hh] at this
  by_cases hlt : j < s.next
  · simp [hlt] at this
    refine ⟨hlt, ?_, cbCountL_eq_zero (by omega)⟩
    intro hm; have := List.count_pos_iff.mpr hm; omega
  · simp [hlt] at this

theorem inv4_step {cfg : Cfg} {s s' : St} {e : Ev} (hp : ∀ j, places s j = if j < s.next then 1 else 0)
    (hi : Inv4 s) (h : step cfg s e = some s') : Inv4 s' := by
  obtain ⟨ha, hb, hc, hd⟩ := hi
  cases Step.of_step h with
  | connOk | connFailIdle | connFailHeld | timer | wroteOk | closeBuf | cancelStream | panic | cancelCtx =>
    exact ⟨ha, hb, hc, hd⟩
  | offer =>
    refine ⟨ha, hb, fun j hj => ?_, hd⟩
    have := hc j hj
    exact ⟨by simp only [List.mem_append, List.mem_singleton, this.1, false_or]; omega, by dsimp only; omega⟩
  | @takeStream j q _ hq | @takeWait j q hq =>
    -- the stream taken from the queue has seen no write error yet
    have hq' : ∀ k ∈ s.wfail, k ≠ j ∧ k ∉ q ∧ k < s.next := fun k hk => by simpa [hq, not_or, and_assoc] using hc k hk
    exact ⟨ha, fun k hk hw => absurd (Option.some.inj hk) (Ne.symm (hq' k hw).1), fun k hk => (hq' k hk).2, hd⟩
  | @wroteFail _ j _ hh =>
    obtain ⟨h1, h2, h3⟩ := held_facts hp hh
    refine ⟨fun cb hcb hw => ha cb hcb ?_, fun _ _ _ => by simp, fun k hk => ?_, hd⟩
    · simpa [h3 cb hcb] using hw
    · rcases List.mem_append.mp hk with hk | hk
      · exact hc k hk
      · simp only [List.mem_singleton] at hk; subst hk; exact ⟨h2, h1⟩
  | seeClosed _ hh | seeStreamCancel _ _ _ hh =>
    -- the held stream is called back with at least the errors collected for it
    refine ⟨?_, nofun, hc, ?_⟩ <;> simp only [List.forall_mem_append, List.forall_mem_singleton]
    · exact ⟨ha, fun hw => by simp [hb _ hh hw]⟩
    · exact ⟨hd, by simp⟩
  | seeCtx =>
    refine ⟨?_, nofun, fun k hk => ⟨by simp [exit], (hc k hk).2⟩, ?_⟩ <;>
      simp only [exit, List.forall_mem_append, List.forall_mem_map]
    · refine ⟨⟨ha, ?_⟩, fun k hk hw => absurd hk (hc k hw).1⟩
      cases hh : s.held with
      | none => simp
      | some h0 => simpa using hb h0 hh
    · refine ⟨⟨hd, ?_⟩, fun _ _ _ => by simp⟩
      cases s.held <;> simp

structure Inv (cfg : Cfg) (s : St) : Prop where
  count : Inv1 s
  errs : Inv4 s
  sink : cfg.fixSink = true → Inv2 s
  cancel : cfg.fixCancel = true → Inv3 s

theorem inv_init (cfg : Cfg) : Inv cfg init :=
  ⟨by constructor <;> simp [init, places], by constructor <;> simp [init], fun _ => by simp [Inv2, init],
   fun _ => by simp [Inv3, init]⟩

theorem inv_step {cfg : Cfg} {s s' : St} {e : Ev} (hi : Inv cfg s) (h : step cfg s e = some s') : Inv cfg s' :=
  ⟨inv1_step hi.count h, inv4_step hi.count.places hi.errs h,
   fun hf => inv2_step hf (hi.sink hf) h, fun hf => inv3_step hf (hi.cancel hf) h⟩

theorem exec_eq_foldlM (cfg : Cfg) (s : St) (es : List Ev) : exec cfg s es = es.foldlM (step cfg) s :=
  eq_foldlM_of_rec (fun _ => rfl) (fun s e es => by rw [exec]; cases step cfg s e <;> rfl) s es

theorem inv_exec {cfg : Cfg} (evs : List Ev) {s s' : St} (hi : Inv cfg s) (h : exec cfg s evs = some s') : Inv cfg s' :=
  foldlM_inv (Inv cfg) (fun _ _ _ hi hs => inv_step hi hs) evs hi (exec_eq_foldlM cfg s evs ▸ h)

theorem exec_append (cfg : Cfg) (a b : List Ev) (s : St) :
    exec cfg s (a ++ b) = (exec cfg s a).bind (fun s1 => exec cfg s1 b) := by
  simp only [exec_eq_foldlM, List.foldlM_append]; rfl

theorem fin_recvStream (cfg : Cfg) (s : St) (c : Nat) (hpc : s.pc = .recvStream c) (hd : s.ctxDone = true) :
    ∃ s', exec cfg s [.seeCtx] = some s' ∧ s'.pc = .stopped := by
  simp [exec, step, hpc, hd, exit]

theorem fin_afterInner (cfg : Cfg) (hmax : 0 < cfg.max) (s : St) (c : Nat) (hh : s.held = none) (hd : s.ctxDone = true) :
    ∃ s', exec cfg (goInner cfg s c) (if c < cfg.max then [.seeCtx] else [.connOk, .seeCtx]) = some s' ∧ s'.pc = .stopped := by
  by_cases hc : c < cfg.max
  · simp [hc, exec, step, goInner, hh, hd, exit]
  · simp [hc, exec, step, goInner, hh, hd, exit, hmax]

theorem fin_buf (cfg : Cfg) (hmax : 0 < cfg.max) (s : St) (c j : Nat) (hpc : s.pc = .recvBuf c) (hh : s.held = some j)
    (hlt : j < s.next) (hd : s.ctxDone = true) :
    ∃ s', exec cfg s (finBuf cfg s c) = some s' ∧ s'.pc = .stopped := by
  by_cases hcl : j ∈ s.closed
  · simpa [finBuf, finAfter, exec, step, hpc, hh, hcl] using
      fin_afterInner cfg hmax { (callback s j s.errs .drained) with held := none, errs := [] } (c + 1) rfl hd
  · simpa [finBuf, finAfter, exec, step, hpc, hh, hcl, hlt] using
      fin_afterInner cfg hmax { (callback { s with closed := j :: s.closed } j s.errs .drained) with held := none, errs := [] }
        (c + 1) rfl hd

theorem exec_finZ (cfg : Cfg) (s : St) (rest : List Ev) :
    exec cfg s (finZ s ++ rest) = exec cfg { s with ctxDone := true } rest := by
  unfold finZ
  by_cases hd : s.ctxDone = true
  · simp [hd]; congr; cases s; simp_all
  · simp [hd, exec, step]

theorem finScript_split (cfg : Cfg) (s : St) (h1 : s.pc ≠ .stopped) (h2 : s.pc ≠ .panicked) :
    finScript cfg s = finZ s ++ finScript cfg { s with ctxDone := true } := by
  unfold finScript
  cases hpc : s.pc <;> simp [finZ, finBuf] <;> simp_all

theorem finScript_stops_done (cfg : Cfg) (hmax : 0 < cfg.max) (s : St) (hi : ∀ c, s.pc = .recvBuf c → s.held.isSome)
    (hn : ∀ j, s.held = some j → j < s.next) (hp : s.pc ≠ .panicked) (hd : s.ctxDone = true) :
    ∃ s', exec cfg s (finScript cfg s) = some s' ∧ s'.pc = .stopped := by
  unfold finScript
  cases hpc : s.pc with
  | stopped => exact ⟨s, by simp [exec], hpc⟩
  | panicked => exact absurd hpc hp
  | wait | recvStream c => simp [finZ, hd, exec, step, hpc, exit]
  | recvBuf c =>
    have hs := hi c hpc
    cases hh : s.held with
    | none => simp [hh] at hs
    | some j =>
      simp only [finZ, hd, if_true, List.nil_append]
      exact fin_buf cfg hmax s c j hpc hh (hn j hh) hd
  | dial =>
    cases hh : s.held with
    | none => simpa [finZ, hd, exec, step, hpc, hmax] using fin_afterInner cfg hmax s 0 hh hd
    | some j =>
      have hg : goInner cfg s 0 = { s with pc := .recvBuf 0 } := by simp [goInner, hmax, hh]
      simpa [finZ, hd, exec, step, hpc, hg, finBuf] using
        fin_buf cfg hmax { s with pc := .recvBuf 0 } 0 j rfl hh (hn j hh) hd

theorem finScript_stops (cfg : Cfg) (hmax : 0 < cfg.max) (s : St) (hi : Inv1 s) (hp : s.pc ≠ .panicked) :
    ∃ s', exec cfg s (finScript cfg s) = some s' ∧ s'.pc = .stopped := by
  by_cases hst : s.pc = .stopped
  · exact ⟨s, by simp [finScript, hst, exec], hst⟩
  · rw [finScript_split cfg s hst hp, exec_finZ]
    exact finScript_stops_done cfg hmax { s with ctxDone := true } hi.pcBuf
      (fun j hj => (held_facts hi.places hj).1) hp rfl

end Gsd.Sender

namespace Gsd.Collector

structure CInv (n : Nat) (s : St) : Prop where
  counter : s.counter = n
  total : s.c + s.pending + s.quitN = n
  noQuit : s.ctxDone = false → s.quitN = 0
  running : s.done = false → s.c < s.counter
  once : s.cbs.length = if s.done then 1 else 0
  arg : s.done = true → s.cbs = [s.errs]

inductive Step (s : St) : Ev → St → Prop
  | deliver (r : Res) (hd : s.done = false) (hp : 0 < s.pending) (hlt : s.c + 1 < s.counter) :
      Step s (.deliver r) { s with pending := s.pending - 1, errs := s.errs ++ [r], c := s.c + 1 }
  | deliverLast (r : Res) (hd : s.done = false) (hp : 0 < s.pending) (hlt : s.c + 1 = s.counter) :
      Step s (.deliver r) (finish { s with pending := s.pending - 1, errs := s.errs ++ [r], c := s.c + 1 })
  | quit (hc : s.ctxDone = true) (hp : 0 < s.pending) :
      Step s .quit { s with pending := s.pending - 1, quitN := s.quitN + 1 }
  | cancel (hc : s.ctxDone = false) : Step s .cancel { s with ctxDone := true }
  | seeCancel (hc : s.ctxDone = true) (hd : s.done = false) :
      Step s .seeCancel (finish { s with errs := s.errs ++ [.ctx] })

theorem Step.of_step {s s' : St} {e : Ev} (h : step s e = some s') : Step s e s' := by
  cases e <;> simp only [step] at h <;> split at h <;> cases h
  · next r hc =>
    split
    · exact .deliver r hc.1 hc.2.1 ‹_›
    · exact .deliverLast r hc.1 hc.2.1 (by omega)
  · next hc => exact .quit hc.1 hc.2
  · next hc => exact .cancel (Bool.eq_false_iff.mpr hc)
  · next hc => exact .seeCancel hc.1 hc.2

theorem cinv_start (n : Nat) : CInv n (start n n) := by
  unfold start
  by_cases h : n = 0
  · subst h; constructor <;> simp [finish]
  · constructor <;> simp [h] <;> omega

theorem cinv_step {n : Nat} {s s' : St} {e : Ev} (hi : CInv n s) (h : step s e = some s') : CInv n s' := by
  obtain ⟨h1, h2, h3, h4, h5, h6⟩ := hi
  cases Step.of_step h with
  | deliver r hd hp hlt =>
    exact ⟨h1, by dsimp only; omega, h3, fun _ => hlt, h5, fun h => by simp [hd] at h⟩
  | deliverLast r hd hp hlt =>
    have : s.cbs = [] := by simpa [hd] using h5
    exact ⟨h1, by dsimp only [finish]; omega, h3, nofun, by simp [finish, this], fun _ => by simp [finish, this]⟩
  | quit hc hp => exact ⟨h1, by dsimp only; omega, fun h => by simp [hc] at h, h4, h5, h6⟩
  | cancel hc => exact ⟨h1, h2, nofun, h4, h5, h6⟩
  | seeCancel hc hd =>
    have : s.cbs = [] := by simpa [hd] using h5
    exact ⟨h1, h2, fun h => by simp [finish, hc] at h, nofun, by simp [finish, this], fun _ => by simp [finish, this]⟩

theorem exec_eq_foldlM (s : St) (es : List Ev) : exec s es = es.foldlM step s :=
  eq_foldlM_of_rec (fun _ => rfl) (fun s e es => by rw [exec]; cases step s e <;> rfl) s es

theorem cinv_exec {n : Nat} (evs : List Ev) {s s' : St} (hi : CInv n s) (h : exec s evs = some s') : CInv n s' :=
  foldlM_inv (CInv n) (fun _ _ _ hi hs => cinv_step hi hs) evs hi (exec_eq_foldlM s evs ▸ h)

theorem progress {n : Nat} {s : St} (hi : CInv n s) (hd : s.done = false) : ∃ e, (step s e).isSome = true := by
  by_cases hc : s.ctxDone = true
  · exact ⟨.seeCancel, by simp [step, hc, hd]⟩
  · have hq := hi.noQuit (by simpa using hc)
    have := hi.running hd
    have := hi.total
    have := hi.counter
    exact ⟨.deliver .ok, by simp [step, hd]; omega⟩

theorem measure_step {s s' : St} {e : Ev} (h : step s e = some s') : measure s' + 1 ≤ measure s := by
  cases Step.of_step h <;> simp [measure, finish, *] <;> omega

theorem measure_exec (evs : List Ev) {s s' : St} (h : exec s evs = some s') : measure s' + evs.length ≤ measure s :=
  foldlM_induct (fun s evs s' => measure s' + evs.length ≤ measure s) (fun _ => Nat.le_refl _)
    (fun hs ih => by have := measure_step hs; simp only [List.length_cons]; omega) evs (exec_eq_foldlM s evs ▸ h)

def emitted : Ev → Option Res
  | .deliver r => some r
  | .seeCancel => some .ctx
  | _ => none

theorem errs_step {s s' : St} {e : Ev} (h : step s e = some s') : s'.errs = s.errs ++ (emitted e).toList := by
  cases Step.of_step h <;> simp [emitted, finish]

theorem errs_exec (evs : List Ev) {s s' : St} (h : exec s evs = some s') : s'.errs = s.errs ++ evs.filterMap emitted :=
  foldlM_induct (fun s evs s' => s'.errs = s.errs ++ evs.filterMap emitted) (fun _ => by simp)
    (fun {_ e _ _ _} hs ih => by rw [ih, errs_step hs]; cases he : emitted e <;> simp [he]) evs (exec_eq_foldlM s evs ▸ h)

end Gsd.Collector

namespace Gsd.Flusher

def allPairs (backends : Nat) (processed : List Nat) : List (Nat × Nat) :=
  processed.flatMap (fun a => (List.range backends).map (fun b => (a, b)))

theorem length_allPairs (B : Nat) (p : List Nat) : (allPairs B p).length = B * p.length := by
  simp [allPairs, List.length_flatMap, List.map_const', Nat.mul_comm]

theorem mem_allPairs (B : Nat) (p : List Nat) (a b : Nat) : (a, b) ∈ allPairs B p ↔ a ∈ p ∧ b < B := by
  simp [allPairs]

theorem nodup_allPairs (B : Nat) (p : List Nat) (hp : p.Nodup) : (allPairs B p).Nodup :=
  nodup_flatMap_pair id (fun _ => List.range B) p (by rwa [List.map_id]) fun _ _ => List.nodup_range

structure FInv (B : Nat) (s : St) : Prop where
  wg : s.wg = (B * s.processed.length : Nat) - (s.calls.length : Nat)
  sub : ∀ p ∈ s.calls, p ∈ allPairs B s.processed
  pan : s.panicked = true → s.wg < 0
  nodup : s.processed.Nodup

theorem finv_init (B : Nat) : FInv B {} := by constructor <;> simp

theorem finv_step {B : Nat} {s s' : St} {e : Ev} (hi : FInv B s) (h : step B s e = some s') : FInv B s' := by
  obtain ⟨h1, h2, h3, h4⟩ := hi
  cases e <;> simp only [step] at h <;> split at h <;> cases h
  · next a hc =>
    refine ⟨by simp [h1, Nat.mul_succ]; omega, fun (x, y) hp => ?_, fun hp => absurd (.inr hp) hc,
      List.nodup_cons.mpr ⟨fun ha => hc (.inl ha), h4⟩⟩
    have := (mem_allPairs ..).mp (h2 _ hp)
    exact (mem_allPairs ..).mpr ⟨List.mem_cons_of_mem _ this.1, this.2⟩
  · next a b hc =>
    refine ⟨by simp [h1]; omega, fun p hp => ?_, fun hp => by simpa using hp, h4⟩
    rcases List.mem_cons.mp hp with rfl | hp
    · exact (mem_allPairs ..).mpr ⟨hc.1, hc.2.1⟩
    · exact h2 p hp

theorem exec_eq_foldlM (B : Nat) (s : St) (es : List Ev) : exec B s es = es.foldlM (step B) s :=
  eq_foldlM_of_rec (fun _ => rfl) (fun s e es => by rw [exec]; cases step B s e <;> rfl) s es

theorem finv_exec {B : Nat} (evs : List Ev) {s s' : St} (hi : FInv B s) (h : exec B s evs = some s') : FInv B s' :=
  foldlM_inv (FInv B) (fun _ _ _ hi hs => finv_step hi hs) evs hi (exec_eq_foldlM B s evs ▸ h)

theorem calls_subperm {B : Nat} {s : St} (hi : FInv B s) (hn : s.calls.Nodup) :
    s.calls.Subperm (allPairs B s.processed) :=
  List.subperm_of_subset hn fun p hp => hi.sub p hp

theorem wg_zero_iff {B : Nat} {s : St} (hi : FInv B s) (hn : s.calls.Nodup) :
    (s.wg = 0 ∧ s.panicked = false) ↔ ∀ a ∈ s.processed, ∀ b, b < B → (a, b) ∈ s.calls := by
  have hsp := calls_subperm hi hn
  have hle := hsp.length_le
  have hw := hi.wg
  rw [length_allPairs] at hle
  constructor
  · rintro ⟨hz, _⟩ a ha b hb
    have hperm := hsp.perm_of_length_le (by rw [length_allPairs]; omega)
    exact hperm.symm.subset ((mem_allPairs B _ a b).mpr ⟨ha, hb⟩)
  · intro hall
    have hge := (List.subperm_of_subset (nodup_allPairs B _ hi.nodup) fun (a, b) hp =>
      hall a ((mem_allPairs ..).mp hp).1 b ((mem_allPairs ..).mp hp).2).length_le
    rw [length_allPairs] at hge
    refine ⟨by omega, ?_⟩
    cases hpan : s.panicked with
    | false => rfl
    | true => have := hi.pan hpan; omega

end Gsd.Flusher

namespace Gsd.Influx

theorem addSeries_have (perBatch : Nat) (gets : Nat → Bool) (hg : ∀ k, gets k = true) :
    ∀ (n : Nat) (cnt b g : Nat), (addSeries perBatch gets n (cnt, b, g, true)).2.2.2 = true
  | 0, cnt, b, g => rfl
  | n + 1, cnt, b, g => by
    simp only [addSeries]
    split
    · simp at *
    · split
      · rw [hg g]; exact addSeries_have perBatch gets hg n 0 (b + 1) (g + 1)
      · exact addSeries_have perBatch gets hg n (cnt + 1) b g

end Gsd.Influx

namespace Gsd.Direct

/-- Stated for `batch = p + 1` and the amount `m` left, so that no truncated subtraction has to be reasoned about. -/
theorem cwLoop_length_aux (p length : Nat) (outcome : Nat → Bool) :
    ∀ (fuel start k : Nat) (acc : List Bool) (m : Nat), start + m = length → m ≤ fuel →
      (cwLoop (p + 1) length outcome fuel start k acc).length = acc.length + (m + p) / (p + 1)
  | 0, start, k, acc, m, hm, hf => by
    obtain rfl : m = 0 := by omega
    rw [cwLoop, Nat.zero_add, Nat.div_eq_of_lt (Nat.lt_succ_self p), Nat.add_zero]
  | fuel + 1, start, k, acc, 0, hm, hf => by
    rw [cwLoop, if_neg (by omega), Nat.zero_add, Nat.div_eq_of_lt (Nat.lt_succ_self p), Nat.add_zero]
  | fuel + 1, start, k, acc, m + 1, hm, hf => by
    rw [cwLoop, if_pos (by omega)]
    by_cases hover : start + (p + 1) > length
    · rw [if_pos hover, if_neg (by omega), cwLoop_length_aux p length outcome fuel length _ _ 0 rfl (Nat.zero_le _),
        List.length_append, List.length_singleton, Nat.zero_add, Nat.div_eq_of_lt (Nat.lt_succ_self p),
        Nat.div_eq_of_lt_le (k := 1) (by omega) (by omega)]
    · obtain ⟨m', rfl⟩ : ∃ m', m = m' + p := ⟨m - p, by omega⟩
      rw [if_neg hover, if_neg (by omega), cwLoop_length_aux p length outcome fuel _ _ _ m' (by omega) (by omega),
        List.length_append, List.length_singleton, show m' + p + 1 + p = m' + p + (p + 1) by omega,
        Nat.add_div_right _ (Nat.succ_pos p), Nat.add_assoc, Nat.add_comm 1]

end Gsd.Direct

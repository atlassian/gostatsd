import Gsd.Proofs.Lemmas.Aggregator
import Gsd.Model.BackendPanics
/-!
For C04.  A timer the aggregate holds between flushes satisfies `StateOK`, a timer of a flush view `ViewOK` (`run_inv`);
on `ViewOK` timers every repaired payload builder returns, and so does `Flush` on any aggregate under a `Valid` configuration.
-/
namespace Gsd
section
variable {α : Type}

/-- a histogram map as the aggregator produces it: nil, empty (limit 0), or containing the `+Inf` bucket -/
def HistOK (o : Option (Hist α)) : Prop := o = none ∨ o = some [] ∨ ∃ h, o = some h ∧ Bound.inf ∈ histKeys h

def StateOK (t : ATimer α) : Prop := t.percentiles = [] ∧ HistOK t.histogram

def ViewOK (t : ATimer α) : Prop := (∀ e ∈ t.percentiles, '_' ∈ e.1) ∧ HistOK t.histogram

theorem lastIdx_isSome (c : Char) (l : List Char) (h : c ∈ l) : (lastIdx c l).isSome = true := by
  induction l with
  | nil => simp at h
  | cons x xs ih =>
    simp only [lastIdx]
    cases hl : lastIdx c xs with
    | some i => simp
    | none =>
      rcases List.mem_cons.mp h with rfl | h
      · simp
      · have := ih h; simp [hl] at this

theorem newrelicPct_ok (name : List Char) (h : '_' ∈ name) : newrelicPct name = .ok () := by
  unfold newrelicPct
  have := lastIdx_isSome '_' name h
  cases hl : lastIdx '_' name with
  | none => simp [hl] at this
  | some i => rfl

theorem forAll_ok {β : Type} (f : β → Res Unit) (l : List β) (h : ∀ x ∈ l, f x = .ok ()) : forAll f l = .ok () := by
  induction l with
  | nil => rfl
  | cons x xs ih =>
    rw [List.forall_mem_cons] at h
    simp only [forAll, h.1, Res.bind_ok]
    exact ih h.2

theorem otlpBoundsLoop_infs (L : Nat) (i : Nat) (bs : List (Bound α)) (h : ∀ b ∈ bs, b.isInf = true) :
    otlpBoundsLoop L i bs = .ok () := by
  induction bs generalizing i with
  | nil => rfl
  | cons b bs ih =>
    rw [List.forall_mem_cons] at h
    simp only [otlpBoundsLoop, h.1, if_true]
    exact ih _ h.2

theorem otlpBoundsLoop_fins (L : Nat) (i : Nat) (fins rest : List (Bound α)) (h : ∀ b ∈ fins, b.isInf = false)
    (hl : i + fins.length < L) :
    otlpBoundsLoop L i (fins ++ rest) = otlpBoundsLoop L (i + fins.length) rest := by
  induction fins generalizing i with
  | nil => rfl
  | cons b bs ih =>
    rw [List.length_cons] at hl
    rw [List.forall_mem_cons] at h
    rw [List.cons_append, otlpBoundsLoop, if_neg (by simp [h.1]), if_pos (by omega),
      ih (i + 1) h.2 (by omega), List.length_cons, Nat.add_right_comm, Nat.add_assoc]

theorem otlpBuckets_ok (h : Hist α) (hne : h ≠ []) (hinf : Bound.inf ∈ histKeys h) : otlpBuckets h = .ok () := by
  -- `+Inf` is among the bounds, so the others are fewer than `len(buckets)`: every position written lies within `ExplicitBounds`
  have hsplit := List.length_eq_length_filter_add (l := h.map Prod.fst) (fun b : Bound α => b.isInf)
  have hinfs := List.length_pos_of_mem (List.mem_filter.mpr ⟨hinf, rfl⟩ : Bound.inf ∈ (h.map Prod.fst).filter (·.isInf))
  rw [List.length_map] at hsplit
  unfold otlpBuckets
  rw [if_neg (by simpa using hne),
    otlpBoundsLoop_fins _ 0 _ _ (fun b hb => by simpa using (List.mem_filter.mp hb).2) (by omega)]
  exact otlpBoundsLoop_infs _ _ _ fun b hb => (List.mem_filter.mp hb).2

theorem otlpStatistics_ok (values : List α) : otlpStatistics true values = .ok () := by
  unfold otlpStatistics
  cases values with
  | nil => rfl
  | cons x xs =>
    rw [if_neg (by simp), idx_eq_ok _ _ 0 0 (by simp) rfl, idx_eq_ok _ _ _ xs.length (by simp) (by simp)]
    rfl

theorem dropLastByte_ok (s : Site) {n : Nat} (h : n ≠ 0) : dropLastByte s n = .ok () := if_neg h

theorem influxTimer_ok (m : Mask) (t : ATimer α) : influxTimer true m t = .ok () := by
  unfold influxTimer
  cases t.histogram with
  | none =>
    dsimp only
    split
    · rfl
    · next h => exact dropLastByte_ok _ h
  | some h =>
    cases h with
    | nil => rfl
    | cons e es => exact dropLastByte_ok .influxHistBuf (Nat.succ_ne_zero es.length)

theorem otlpTimer_ok (asGauge : Bool) (t : ATimer α) (hh : HistOK t.histogram) : otlpTimer true asGauge t = .ok () := by
  unfold otlpTimer
  cases asGauge with
  | true => rfl
  | false =>
    rw [if_neg Bool.false_ne_true, otlpStatistics_ok, Res.bind_ok]
    rcases hh with hh | hh | ⟨h, hh, hinf⟩ <;> rw [hh]
    · rfl
    · rfl
    · cases h with
      | nil => rfl
      | cons e es => exact otlpBuckets_ok _ (List.cons_ne_nil _ _) hinf

theorem newrelicTimer_ok (metricsApi : Bool) (t : ATimer α) (hn : ∀ e ∈ t.percentiles, '_' ∈ e.1) :
    newrelicTimer metricsApi t = .ok () := by
  unfold newrelicTimer
  cases t.histogram with
  | some _ => rfl
  | none =>
    cases metricsApi with
    | true => exact forAll_ok _ _ (fun e he => newrelicPct_ok e.1 (hn e he))
    | false => rfl

theorem backendTimer_ok (b : Backend) (m : Mask) (t : ATimer α) (ht : ViewOK t) :
    backendTimerWith true true b m t = .ok () := by
  cases b with
  | influxdb => exact influxTimer_ok m t
  | otlp asGauge => exact otlpTimer_ok asGauge t ht.2
  | newrelic metricsApi => exact newrelicTimer_ok metricsApi t ht.1
  | _ => rfl

theorem backendFlush_ok (b : Backend) (m : Mask) (view : AggSt α) (hv : ∀ e ∈ view, ViewOK e.2) :
    backendFlushWith true true b m view = .ok () :=
  forAll_ok _ _ (fun e he => backendTimer_ok b m e.2 (hv e he))

end

section
variable {α : Type} [Num α]

theorem fresh_stateOK (tags : List Bytes) (vals : List α) (sc : α) : StateOK (ATimer.fresh tags vals sc) :=
  ⟨rfl, Or.inl rfl⟩

theorem merge_stateOK (s : AggSt α) (batch : List (AKey × ATimer α)) (hs : ∀ e ∈ s, StateOK e.2)
    (hb : ∀ e ∈ batch, StateOK e.2) : ∀ e ∈ s.merge batch, StateOK e.2 := by
  unfold AggSt.merge
  induction batch generalizing s with
  | nil => exact hs
  | cons x xs ih =>
    rw [List.forall_mem_cons] at hb
    refine ih _ (AList.forall_upsert _ _ _ hs fun o ho => ?_) hb.2
    cases o with
    | none => exact hb.1
    | some into => exact ho into rfl   -- `MergeTimer` touches neither the percentiles nor the histogram

theorem pipelineWith_of_run (fx4 fx5 fx6 : Bool) (parse : Bytes → Option α) (cfg : AggCfg) (b : Backend)
    (ops : List (Op α)) (s : AggSt α) (r : AggSt α × List (AggSt α))
    (h : AggSt.runWith fx4 parse cfg s ops = .ok r)
    (hb : ∀ v ∈ r.2, backendFlushWith fx5 fx6 b cfg.mask v = .ok ()) :
    pipelineWith fx4 fx5 fx6 parse cfg b s ops = .ok r.2 := by
  induction ops generalizing s r with
  | nil => cases h; rfl
  | cons op ops ih =>
    obtain ⟨r1, h1, r2, h2, h⟩ := by simpa only [AggSt.runWith, Res.bind_eq_ok] using h
    cases h
    rw [pipelineWith, h1, Res.bind_ok]
    cases hr : r1.2 with
    | none => exact ih r1.1 r2 h2 (fun v hv => hb v (by simp [hr, hv]))
    | some v =>
      simp only [hr, List.forall_mem_append, List.forall_mem_singleton] at hb
      simp only [hb.1, ih r1.1 r2 h2 hb.2, Res.bind_ok, Res.pure_eq]
      rfl

end

section
variable {α : Type} [Field α] [LinearOrder α] [IsStrictOrderedRing α] [FloorRing α] [HasSqrt α]

theorem emptyHistogram_ok (parse : Bytes → Option α) (tags : List Bytes) (limit : Nat) :
    HistOK (emptyHistogram parse tags limit) := by
  unfold emptyHistogram
  split
  · exact Or.inr (Or.inl rfl)
  · split
    · exact Or.inl rfl
    · refine Or.inr (Or.inr ⟨_, rfl, ?_⟩)
      rw [histInsert0_eq_set]
      exact mem_histKeys_set _ 0 _

theorem latencyHistogram_ok (parse : Bytes → Option α) (tags : List Bytes) (vals : List α) (limit : Nat) :
    HistOK (latencyHistogram parse tags vals limit) := by
  unfold latencyHistogram
  split
  · exact Or.inl rfl
  · exact Or.inr (Or.inl rfl)
  · exact Or.inr (Or.inr ⟨_, rfl, mem_histKeys_set _ _ _⟩)

theorem underscore_mem_pctName (pre : String) (p : Int) (h : '_' ∈ pre.toList) : '_' ∈ pctName pre p := by
  unfold pctName dotToUnderscore
  apply List.mem_map.mpr
  exact ⟨'_', by simp [h], by decide⟩

/-- every sub-metric name of a threshold carries the `_` at which new relic's payload builder cuts it -/
theorem pctEntries_names (m : Mask) (p : Int) (v : PctVals α) : ∀ e ∈ pctEntries m p v, '_' ∈ e.1 := by
  have hall : ∀ e ∈ pctEntriesAll p v, '_' ∈ e.2.1 := by
    unfold pctEntriesAll
    simp only [List.forall_mem_cons]
    have u := fun (pre : String) (h : '_' ∈ pre.toList) => underscore_mem_pctName pre p h
    refine ⟨u _ (by simp), u _ (by simp), u _ (by simp), u _ (by simp), ?_, by simp⟩
    split <;> exact u _ (by simp)
  intro e he
  rw [pctEntries_eq_filter] at he
  obtain ⟨e', he', rfl⟩ := List.mem_map.mp he
  exact hall e' (List.mem_filter.mp he').1

theorem pctTable_names (m : Mask) (l : List (Int × Option (PctVals α))) : ∀ e ∈ pctTable m l, '_' ∈ e.1 := by
  intro e he
  obtain ⟨x, _, hx⟩ := List.mem_flatMap.mp he
  cases hv : x.2 with
  | none => simp [hv] at hx
  | some v => simp only [hv] at hx; exact pctEntries_names m x.1 v e hx

theorem flushTimer_viewOK (fx : Bool) (parse : Bytes → Option α) (cfg : AggCfg) (secs : α) (t out : ATimer α)
    (ht : StateOK t) (h : flushTimerWith fx parse cfg secs t = .ok out) : ViewOK out := by
  obtain ⟨hp, hh⟩ := ht
  rw [flushTimerWith_eq] at h
  split at h
  · cases h; exact ⟨by simp [hp], latencyHistogram_ok _ _ _ _⟩
  · split at h
    · cases h; exact ⟨by simp [hp], hh⟩
    · obtain rfl := (Res.okUnless_eq_ok.mp h).2
      exact ⟨fun e he => pctTable_names _ _ e (by simpa only [specFlush, hp, List.nil_append] using he), hh⟩

theorem resetTimer_stateOK (parse : Bytes → Option α) (cfg : AggCfg) (t : ATimer α) : StateOK (resetTimer parse cfg t) := by
  unfold resetTimer
  split
  · exact ⟨rfl, emptyHistogram_ok _ _ _⟩
  · exact fresh_stateOK _ _ _

theorem reset_stateOK (parse : Bytes → Option α) (cfg : AggCfg) (expired : List AKey) (s : AggSt α) :
    ∀ e ∈ AggSt.reset parse cfg expired s, StateOK e.2 := by
  intro e he
  obtain ⟨x, _, rfl⟩ := List.mem_map.mp he
  exact resetTimer_stateOK parse cfg x.2

theorem flushWith_viewOK (fx : Bool) (parse : Bytes → Option α) (cfg : AggCfg) (secs : α) (s view : AggSt α)
    (hs : ∀ e ∈ s, StateOK e.2) (h : AggSt.flushWith fx parse cfg secs s = .ok view) : ∀ e ∈ view, ViewOK e.2 := by
  induction s generalizing view with
  | nil => cases h; simp
  | cons x xs ih =>
    obtain ⟨t', ht, rest, hr, h⟩ := by simpa only [AggSt.flushWith, Res.bind_eq_ok] using h
    cases h
    rw [List.forall_mem_cons] at hs ⊢
    exact ⟨flushTimer_viewOK fx parse cfg secs x.2 t' hs.1 ht, ih rest hs.2 hr⟩

theorem flushWith_total (parse : Bytes → Option α) (cfg : AggCfg) (hc : cfg.Valid) (secs : α) (s : AggSt α) :
    ∃ view, AggSt.flushWith true parse cfg secs s = .ok view := by
  induction s with
  | nil => exact ⟨[], rfl⟩
  | cons x xs ih =>
    obtain ⟨k, t⟩ := x
    obtain ⟨t', ht⟩ := flushTimerWith_total parse cfg hc secs t
    obtain ⟨rest, hr⟩ := ih
    exact ⟨(k, t') :: rest, by simp [AggSt.flushWith, ht, hr]⟩

theorem step_inv (fx : Bool) (parse : Bytes → Option α) (cfg : AggCfg) (s : AggSt α) (op : Op α)
    (hs : ∀ e ∈ s, StateOK e.2) (r : AggSt α × Option (AggSt α)) (h : AggSt.stepWith fx parse cfg s op = .ok r) :
    (∀ e ∈ r.1, StateOK e.2) ∧ (∀ v, r.2 = some v → ∀ e ∈ v, ViewOK e.2) := by
  cases op with
  | merge batch =>
    injection h with h; subst h
    refine ⟨?_, by intro v hv; cases hv⟩
    apply merge_stateOK _ _ hs
    intro e he
    obtain ⟨x, _, rfl⟩ := List.mem_map.mp he
    exact fresh_stateOK _ _ _
  | flush secs expired =>
    obtain ⟨view, hv, h⟩ := by simpa only [AggSt.stepWith, Res.bind_eq_ok] using h
    cases h
    exact ⟨reset_stateOK _ _ _ _, fun v hv' => by
      cases hv'; exact flushWith_viewOK fx parse cfg secs s view hs hv⟩

theorem step_total (parse : Bytes → Option α) (cfg : AggCfg) (hc : cfg.Valid) (s : AggSt α) (op : Op α) :
    ∃ r, AggSt.stepWith true parse cfg s op = .ok r := by
  cases op with
  | merge batch => exact ⟨_, rfl⟩
  | flush secs expired =>
    obtain ⟨view, hv⟩ := flushWith_total parse cfg hc secs s
    exact ⟨(AggSt.reset parse cfg expired view, some view), by simp [AggSt.stepWith, hv]⟩

theorem run_inv (fx : Bool) (parse : Bytes → Option α) (cfg : AggCfg) (ops : List (Op α)) (s : AggSt α)
    (hs : ∀ e ∈ s, StateOK e.2) (r : AggSt α × List (AggSt α)) (h : AggSt.runWith fx parse cfg s ops = .ok r) :
    (∀ e ∈ r.1, StateOK e.2) ∧ (∀ v ∈ r.2, ∀ e ∈ v, ViewOK e.2) := by
  induction ops generalizing s r with
  | nil => cases h; exact ⟨hs, fun _ hv => by cases hv⟩
  | cons op ops ih =>
    obtain ⟨r1, h1, r2, h2, h⟩ := by simpa only [AggSt.runWith, Res.bind_eq_ok] using h
    cases h
    obtain ⟨hs1, hv1⟩ := step_inv fx parse cfg s op hs r1 h1
    obtain ⟨hs2, hv2⟩ := ih r1.1 hs1 r2 h2
    refine ⟨hs2, fun v hv => ?_⟩
    rcases List.mem_append.mp hv with hv | hv
    · cases hr : r1.2 with
      | none => simp [hr] at hv
      | some v1 =>
        simp only [hr, List.mem_singleton] at hv
        exact hv ▸ hv1 _ hr
    · exact hv2 v hv

end
end Gsd

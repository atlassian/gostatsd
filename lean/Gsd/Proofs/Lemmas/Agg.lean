import Gsd.Proofs.Lemmas.MetricMap
import Mathlib.Algebra.BigOperators.Group.List.Basic
/-! What it means that a metric map aggregates a list of maps (`AggMM`): per type a summary relation between one
entry and the list of entries it stands for (`CSum`, `TSum`, `SSum`, `GSum`), kept by the type's merge function;
`Merge` and `MergeMaps` keep `AggMM`.  C07 proves the properties from this; the tag and cloud
stages (C10, C11) use it for the maps they rebuild. -/
namespace Gsd
open AList

theorem forall₂_modify {β γ} {R : β → γ → Prop} {l₁ : List β} {l₂ : List γ} (h : List.Forall₂ R l₁ l₂) (i : Nat)
    {f : β → β} {g : γ → γ} (hfg : ∀ a b, R a b → R (f a) (g b)) : List.Forall₂ R (l₁.modify i f) (l₂.modify i g) := by
  induction h generalizing i with
  | nil => simp
  | cons hab ht ih =>
    cases i with
    | zero => exact .cons (hfg _ _ hab) ht
    | succ i => exact .cons hab (ih i)

variable {α : Type} [AddCommMonoid α]

def CSum (c : Counter) (ls : List Counter) : Prop :=
  c.value = (ls.map (·.value)).sum ∧ IsMax c.ts (ls.map (·.ts))

def TSum (t : Timer α) (ls : List (Timer α)) : Prop :=
  t.values = (ls.map (·.values)).flatten ∧ t.sampled = (ls.map (·.sampled)).sum ∧ IsMax t.ts (ls.map (·.ts))

def SSum (s : SetV) (ls : List SetV) : Prop :=
  (∀ x, x ∈ s.members ↔ ∃ l ∈ ls, x ∈ l.members) ∧ IsMax s.ts (ls.map (·.ts))

def GSum (g : Gauge α) (ls : List (Gauge α)) : Prop :=
  IsMax g.ts (ls.map (·.ts)) ∧ ∃ l ∈ ls, l.ts = g.ts ∧ l.value = g.value

theorem csum_base (c : Counter) : CSum c [c] := by simp [CSum, isMax_single]
theorem tsum_base (t : Timer α) : TSum t [t] := by simp [TSum, isMax_single]
theorem ssum_base (s : SetV) : SSum s [s] := by simp [SSum, isMax_single]
omit [AddCommMonoid α] in
theorem gsum_base (g : Gauge α) : GSum g [g] := by simp [GSum, isMax_single]

theorem csum_step (x y : Counter) (xs ys : List Counter) (hx : CSum x xs) (hy : CSum y ys) :
    CSum (mergeCounter x y) (xs ++ ys) :=
  ⟨by simp [mergeCounter, hx.1, hy.1], List.map_append ▸ isMax_bumpTs cmp_MergeCounter hx.2 hy.2⟩

theorem tsum_step (x y : Timer α) (xs ys : List (Timer α)) (hx : TSum x xs) (hy : TSum y ys) :
    TSum (mergeTimer x y) (xs ++ ys) :=
  ⟨by simp [mergeTimer, hx.1, hy.1], by simp [mergeTimer, hx.2.1, hy.2.1],
    List.map_append ▸ isMax_bumpTs cmp_MergeTimer hx.2.2 hy.2.2⟩

theorem ssum_step (x y : SetV) (xs ys : List SetV) (hx : SSum x xs) (hy : SSum y ys) :
    SSum (mergeSet x y) (xs ++ ys) :=
  ⟨fun v => by simp only [mergeSet, mem_setUnion, hx.1, hy.1, List.mem_append, or_and_right, exists_or],
    List.map_append ▸ isMax_bumpTs cmp_MergeSet hx.2 hy.2⟩

omit [AddCommMonoid α] in
/-- `c`: the timestamp test of `MergeGauge` / `receiveGauge` -/
theorem gsum_pick {c : Prop} [Decidable c] (x y : Gauge α) (xs ys : List (Gauge α)) (hx : GSum x xs) (hy : GSum y ys)
    (h1 : c → x.ts ≤ y.ts) (h2 : ¬ c → y.ts ≤ x.ts) :
    GSum (if c then { x with ts := y.ts, value := y.value } else x) (xs ++ ys) := by
  obtain ⟨hx1, lx, hlx, hlx'⟩ := hx
  obtain ⟨hy1, ly, hly, hly'⟩ := hy
  unfold GSum
  rw [List.map_append]
  split
  · next h => exact ⟨isMax_append_right hx1 hy1 (h1 h), ly, List.mem_append_right _ hly, hly'⟩
  · next h => exact ⟨isMax_append_left hx1 hy1 (h2 h), lx, List.mem_append_left _ hlx, hlx'⟩

omit [AddCommMonoid α] in
theorem gsum_step (x y : Gauge α) (xs ys : List (Gauge α)) (hx : GSum x xs) (hy : GSum y ys) :
    GSum (mergeGauge x y) (xs ++ ys) :=
  gsum_pick x y xs ys hx hy (cmp_MergeGauge x.ts y.ts).1
    (fun h => Int.not_lt.mp fun hlt => h ((cmp_MergeGauge x.ts y.ts).2 hlt))

def AggMM (m : MM α) (ls : List (MM α)) : Prop :=
  Agg CSum m.counters (ls.map (·.counters)) ∧ Agg TSum m.timers (ls.map (·.timers)) ∧
  Agg GSum m.gauges (ls.map (·.gauges)) ∧ Agg SSum m.sets (ls.map (·.sets))

theorem aggMM_empty : AggMM (MM.empty : MM α) [] := ⟨agg_nil _, agg_nil _, agg_nil _, agg_nil _⟩

theorem aggMM_leaf (m : MM α) : AggMM m [m] :=
  ⟨agg_leaf _ csum_base _, agg_leaf _ tsum_base _, agg_leaf _ gsum_base _, agg_leaf _ ssum_base _⟩

theorem aggMM_merge (a b : MM α) (xs ys : List (MM α)) (ha : AggMM a xs) (hb : AggMM b ys) (hw : b.WF) :
    AggMM (MM.merge a b) (xs ++ ys) := by
  simp only [AggMM, List.map_append, MM.merge]
  exact ⟨agg_merge _ _ csum_step _ _ _ _ ha.1 hb.1 hw.1, agg_merge _ _ tsum_step _ _ _ _ ha.2.1 hb.2.1 hw.2.1,
         agg_merge _ _ gsum_step _ _ _ _ ha.2.2.1 hb.2.2.1 hw.2.2.1, agg_merge _ _ ssum_step _ _ _ _ ha.2.2.2 hb.2.2.2 hw.2.2.2⟩

theorem aggMM_foldl_merge {ms : List (MM α)} {hs : List (List (MM α))}
    (h : List.Forall₂ (fun s l => AggMM s l ∧ s.WF) ms hs) (acc : MM α) (l0 : List (MM α)) (h0 : AggMM acc l0) :
    AggMM (ms.foldl MM.merge acc) (l0 ++ hs.flatten) := by
  induction h generalizing acc l0 with
  | nil => simpa using h0
  | cons hab _ ih =>
    simpa [List.append_assoc] using ih _ _ (aggMM_merge _ _ _ _ h0 hab.1 hab.2)

theorem aggMM_mergeMaps (ms : List (MM α)) (hw : ∀ m ∈ ms, m.WF) : AggMM (MM.mergeMaps ms) ms := by
  have h : List.Forall₂ (fun s l => AggMM s l ∧ s.WF) ms (ms.map ([·])) :=
    List.forall₂_map_right_iff.mpr (List.forall₂_same.mpr fun m hm => ⟨aggMM_leaf m, hw m hm⟩)
  simpa [MM.mergeMaps, ← List.flatMap_def] using aggMM_foldl_merge h MM.empty [] aggMM_empty

end Gsd

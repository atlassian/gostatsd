import Gsd.Model.Lambda
import Gsd.Proofs.Lemmas.List
/-!
C20 (Lambda extension): `step` read as a set of guarded rules (`Step`), the invariant `Inv` of the transition
system with its preservation, and the consequences of the invariant that C20 states.  Core Lean only.
-/
namespace Gsd.Lambda

/-- program counters before the heartbeat's initial flush -/
def Pc.early : Pc → Bool
  | .start | .registered | .serving | .initFailed | .initErrSent | .hbStart => true
  | _ => false

def InBody (fs : List Flush) (dp : Nat) : Prop := ∃ (j : Nat) (f : Flush), fs[j]? = some f ∧ dp ∈ f.body

/-- `n` is the number of `/next` requests. -/
structure Pos (fs : List Flush) (n : Nat) (buf : List Nat) (acc : List (Nat × Nat)) : Prop where
  ord : ∀ j, j < n → ∃ f, fs[j]? = some f ∧ f.st.over = true
  orig : ∀ j f, fs[j]? = some f → f.origin = (if j = 0 then none else some j)
  d0 : ∀ dp, (dp ∈ buf ∨ InBody fs dp) → ∃ e, (dp, e) ∈ acc
  d1 : ∀ p, p ∈ acc → p.1 ∈ buf ∨ InBody fs p.1
  d3 : ∀ p, p ∈ acc → ∀ j f, fs[j]? = some f → p.1 ∈ f.body → j ≤ p.2 + 1

section set
variable {fs : List Flush} {j : Nat} {f : Flush} {st' : FSt} (hf : fs[j]? = some f)
include hf

theorem of_set {i : Nat} {g' : Flush} (h : (fs.set j { f with st := st' })[i]? = some g') :
    ∃ g, fs[i]? = some g ∧ g.origin = g'.origin ∧ g.body = g'.body :=
  forall_getElem?_set (P := fun i g' => ∃ g, fs[i]? = some g ∧ g.origin = g'.origin ∧ g.body = g'.body)
    (fun _ g hg => ⟨g, hg, rfl, rfl⟩) j ⟨f, hf, rfl, rfl⟩ i g' h

theorem to_set {i : Nat} {g : Flush} (h : fs[i]? = some g) :
    ∃ g', (fs.set j { f with st := st' })[i]? = some g' ∧ g'.body = g.body ∧
      ((f.st.over = true → st'.over = true) → g.st.over = true → g'.st.over = true) := by
  rw [List.getElem?_set]
  by_cases hji : j = i
  · subst hji; cases hf.symm.trans h
    exact ⟨{ f with st := st' }, by simp [(List.getElem?_eq_some_iff.mp hf).1], rfl, id⟩
  · exact ⟨g, by simp [hji, h], rfl, fun _ => id⟩

theorem Pos.set {n buf acc} (p : Pos fs n buf acc) (hmono : f.st.over = true → st'.over = true) :
    Pos (fs.set j { f with st := st' }) n buf acc where
  ord i hi := let ⟨_, hg, ho⟩ := p.ord i hi; let ⟨g', hg', _, hm⟩ := to_set hf hg; ⟨g', hg', hm hmono ho⟩
  orig i _ hg' := let ⟨g, hg, ho, _⟩ := of_set hf hg'; ho ▸ p.orig i g hg
  d0 dp h := p.d0 dp <| h.imp id fun ⟨i, _, hg', hb⟩ => let ⟨g, hg, _, hb'⟩ := of_set hf hg'; ⟨i, g, hg, hb' ▸ hb⟩
  d1 q hq := (p.d1 q hq).imp id fun ⟨i, _, hg, hb⟩ =>
    let ⟨g', hg', hb', _⟩ := to_set hf hg; ⟨i, g', hg', hb' ▸ hb⟩
  d3 q hq i _ hg' hb := let ⟨g, hg, _, hb'⟩ := of_set hf hg'; p.d3 q hq i g hg (hb' ▸ hb)

theorem countP_setSt (p : Flush → Bool) :
    (fs.set j { f with st := st' }).countP p =
      fs.countP p + (if p { f with st := st' } then 1 else 0) - (if p f then 1 else 0) := by
  obtain ⟨hj, rfl⟩ := List.getElem?_eq_some_iff.mp hf
  have := List.boole_getElem_le_countP (p := p) hj
  rw [List.countP_set hj]; omega

theorem notified_set : notifiedCount (fs.set j { f with st := st' }) =
    notifiedCount fs + (if st' = .notified then 1 else 0) - (if f.st = .notified then 1 else 0) := by
  simpa [notifiedCount] using countP_setSt (st' := st') hf fun f => decide (f.st = .notified)

theorem over_set : overCount (fs.set j { f with st := st' }) =
    overCount fs + (if st'.over then 1 else 0) - (if f.st.over then 1 else 0) :=
  countP_setSt hf _

end set

theorem Pos.flush {fs n buf acc} (p : Pos fs n buf acc) {o : Option Nat}
    (ho : o = if fs.length = 0 then none else some fs.length)
    (hnew : ∀ q, q ∈ acc → q.1 ∈ buf → fs.length ≤ q.2 + 1) :
    Pos (fs ++ [{ st := .created, origin := o, body := buf }]) n [] acc where
  ord i hi := let ⟨g, hg, ho⟩ := p.ord i hi; ⟨g, getElem?_append_of_some _ hg, ho⟩
  orig i g' hg' := (getElem?_concat_cases hg').elim (p.orig i g') fun ⟨hi, hg⟩ => by subst hi hg; exact ho
  d0 dp h := p.d0 dp <| h.elim (by simp) fun ⟨i, g', hg', hb⟩ =>
    (getElem?_concat_cases hg').elim (fun hg => Or.inr ⟨i, g', hg, hb⟩) fun ⟨_, hg⟩ => Or.inl (by subst hg; exact hb)
  d1 q hq := Or.inr <| (p.d1 q hq).elim (fun hb => ⟨fs.length, _, List.getElem?_concat_length, hb⟩)
    fun ⟨i, g, hg, hb⟩ => ⟨i, g, getElem?_append_of_some _ hg, hb⟩
  d3 q hq i g' hg' hb := (getElem?_concat_cases hg').elim (fun hg => p.d3 q hq i g' hg hb)
    fun ⟨hi, hg⟩ => by subst hi hg; exact hnew q hq hb

theorem Pos.accept {fs n buf acc} (p : Pos fs n buf acc) {dp : Nat} (e : Nat) (hfresh : ∀ e, (dp, e) ∉ acc) :
    Pos fs n (buf ++ [dp]) (acc ++ [(dp, e)]) where
  ord := p.ord
  orig := p.orig
  d0 x hx := by
    simp only [List.mem_append, List.mem_singleton] at hx ⊢
    rcases hx with (hx | rfl) | hx
    · exact (p.d0 x (Or.inl hx)).imp fun _ => Or.inl
    · exact ⟨e, Or.inr rfl⟩
    · exact (p.d0 x (Or.inr hx)).imp fun _ => Or.inl
  d1 q hq := by
    simp only [List.mem_append, List.mem_singleton] at hq ⊢
    rcases hq with hq | rfl
    · exact (p.d1 q hq).imp Or.inl id
    · exact Or.inl (Or.inr rfl)
  d3 q hq j f h1 h2 := by
    simp only [List.mem_append, List.mem_singleton] at hq
    rcases hq with hq | rfl
    · exact p.d3 q hq j f h1 h2
    · exact absurd (p.d0 dp (Or.inr ⟨j, f, h1, h2⟩)).choose_spec (hfresh _)

theorem notified_append (fs : List Flush) (g : Flush) (hg : g.st ≠ .notified) :
    notifiedCount (fs ++ [g]) = notifiedCount fs := by
  simp [notifiedCount, List.countP_append, hg]

theorem over_append (fs : List Flush) (g : Flush) (hg : g.st.over = false) : overCount (fs ++ [g]) = overCount fs := by
  simp [overCount, List.countP_append, hg]

theorem all_notified (fs : List Flush) (h : notifiedCount fs = fs.length) : ∀ f ∈ fs, f.st = .notified := by
  have := (List.countP_eq_length (p := fun f : Flush => decide (f.st = .notified)) (l := fs)).mp h
  intro f hf
  simpa using this f hf

inductive Step : St → Act → St → Prop
  | register {s} : s.pc = .start → Step s .register { s with pc := .registered }
  | subscribe {s} : s.pc = .registered → Step s .subscribe { s with pc := .serving }
  | serverFail {s} : s.pc = .serving → Step s .serverFail { s with pc := .initFailed, failed := true }
  | initError {s} : s.pc = .initFailed →
      Step s .initError { s with pc := .initErrSent, initErrors := s.initErrors + 1 }
  | windowElapsed {s} : s.pc = .serving → Step s .windowElapsed { s with pc := .hbStart }
  | hbInitFlush {s} : s.pc = .hbStart →
      Step s .hbInitFlush { s with
        pc := .waiting, initFlushed := true, buf := [],
        flushes := s.flushes ++ [{ st := .created, origin := none, body := s.buf }] }
  | hbWait {s} : s.pc = .waiting ∧ 0 < s.tokens →
      Step s .hbWait { s with pc := .woken, tokens := s.tokens - 1, waits := s.waits + 1 }
  | hbNext {s} : s.pc = .woken → Step s .hbNext { s with pc := .inNext, nextReq := s.nextReq + 1 }
  | rtInvoke {s} : s.pc = .inNext → Step s .rtInvoke { s with pc := .waiting, nextResp := s.nextResp + 1 }
  | rtShutdown {s} : s.pc = .inNext → Step s .rtShutdown { s with pc := .stopped, nextResp := s.nextResp + 1 }
  | accept {s dp} : s.pc ≠ .start → s.pc ≠ .registered → (∀ e, (dp, e) ∉ s.accepted) →
      Step s (.accept dp) { s with buf := s.buf ++ [dp], accepted := s.accepted ++ [(dp, s.doneEmitted)] }
  | rtDone {s} : Step s .rtDone { s with doneEmitted := s.doneEmitted + 1, doneQueued := s.doneQueued + 1 }
  | otherRecord {s} : Step s .otherRecord s
  | teleFlush {s} : 0 < s.doneQueued →
      Step s .teleFlush { s with
        doneQueued := s.doneQueued - 1, doneProcessed := s.doneProcessed + 1, buf := [],
        flushes := s.flushes ++ [{ st := .created, origin := some (s.doneProcessed + 1), body := s.buf }] }
  | skip {s j f} : s.flushes[j]? = some f → f.st = .created ∧ f.body = [] →
      Step s (.skip j) { setFlush s j f .completed with empties := s.empties + 1 }
  | postBegin {s j f} : s.flushes[j]? = some f → f.st = .created ∧ f.body ≠ [] →
      Step s (.postBegin j) (setFlush s j f .posting)
  | postEnd {s j f} : s.flushes[j]? = some f → f.st = .posting →
      Step s (.postEnd j) { setFlush s j f .completed with attempts := s.attempts + 1 }
  | notify {s j f} : s.flushes[j]? = some f → f.st = .completed ∧ s.tokens < s.cap →
      Step s (.notify j) { setFlush s j f .notified with tokens := s.tokens + 1, notifies := s.notifies + 1 }

theorem Step.of_step {s s' : St} {a : Act} (h : step s a = some s') : Step s a s' := by
  cases a with
  | skip j | postBegin j | postEnd j | notify j =>
    unfold step at h
    cases hf : s.flushes[j]? with
    | none => simp only [hf] at h; cases h
    | some f =>
      simp only [hf, Option.ite_none_right_eq_some, Option.some.injEq] at h
      obtain ⟨hg, rfl⟩ := h
      constructor <;> assumption
  | accept dp =>
    simp only [step, Option.ite_none_left_eq_some, Option.some.injEq, not_or, List.any_eq_true, beq_iff_eq] at h
    obtain ⟨⟨h1, h2, h3⟩, rfl⟩ := h
    exact .accept h1 h2 fun e he => h3 ⟨_, he, rfl⟩
  | rtDone => cases h; exact .rtDone
  | otherRecord => cases h; exact .otherRecord
  | _ =>
    simp only [step, Option.ite_none_right_eq_some, Option.some.injEq] at h
    obtain ⟨hg, rfl⟩ := h
    constructor; exact hg

structure Ctl (s : St) : Prop where
  req : s.nextReq = s.nextResp + (if s.pc = .inNext then 1 else 0)
  wait : s.waits = s.nextReq + (if s.pc = .woken then 1 else 0)
  early : s.pc.early = true → s.nextReq = 0
  flushed : s.initFlushed = !s.pc.early
  fail : s.failed = true ↔ (s.pc = .initFailed ∨ s.pc = .initErrSent)
  ierr : s.initErrors = (if s.pc = .initErrSent then 1 else 0)
  tok : s.tokens = (s.notifies : Int) - s.waits
  tokNonneg : 0 ≤ s.tokens
  done : s.doneProcessed + s.doneQueued = s.doneEmitted
  env : s.doneEmitted ≤ s.nextResp

structure Lst (s : St) : Prop where
  notif : s.notifies = notifiedCount s.flushes
  over : s.attempts + s.empties = overCount s.flushes
  len : s.flushes.length = (if s.initFlushed then 1 else 0) + s.doneProcessed
  pos : Pos s.flushes s.nextReq s.buf s.accepted
  d2 : ∀ p, p ∈ s.accepted → p.1 ∈ s.buf → s.doneProcessed ≤ p.2

structure Inv (s : St) : Prop where
  ctl : Ctl s
  lst : Lst s

theorem inv_init (cap : Int) : Inv (init cap) := by
  refine ⟨⟨?_, ?_, ?_, ?_, ?_, ?_, ?_, ?_, ?_, ?_⟩, ⟨?_, ?_, ?_, ⟨?_, ?_, ?_, ?_, ?_⟩, ?_⟩⟩ <;>
    simp [init, Pc.early, notifiedCount, overCount, InBody]

theorem Inv.chain {s : St} (inv : Inv s) :
    s.tokens + s.waits = notifiedCount s.flushes ∧ notifiedCount s.flushes ≤ s.flushes.length ∧
      s.flushes.length ≤ 1 + s.nextResp := by
  obtain ⟨c, l⟩ := inv
  refine ⟨by have := c.tok; have := l.notif; omega, List.countP_le_length, ?_⟩
  have := c.done; have := c.env; have hlen := l.len
  split at hlen <;> omega

theorem Ctl.unflushed {s : St} (c : Ctl s) (h : s.initFlushed = false) :
    s.pc.early = true ∧ s.nextReq + s.nextResp + s.doneEmitted + s.doneProcessed + s.doneQueued = 0 := by
  have he : s.pc.early = true := by simpa [h] using c.flushed
  have := c.early he; have := c.req; have := c.env; have := c.done
  exact ⟨he, by omega⟩

theorem Ctl.flushed_of_pos {s : St} (c : Ctl s) (h : 0 < s.nextReq + s.doneQueued) : s.initFlushed = true := by
  cases hf : s.initFlushed with
  | true => rfl
  | false => have := (c.unflushed hf).2; omega

theorem Inv.caught_up {s : St} (inv : Inv s) (hpc : s.pc = .woken ∨ s.pc = .inNext) :
    s.tokens = 0 ∧ notifiedCount s.flushes = s.flushes.length ∧ s.flushes.length = s.waits := by
  have hw : s.waits = s.nextResp + 1 := by
    have hw := inv.ctl.wait; have hr := inv.ctl.req
    rcases hpc with hpc | hpc <;> simp only [hpc, reduceCtorEq, if_true, if_false] at hw hr <;> omega
  have := inv.ctl.tokNonneg; have := inv.chain
  omega

theorem Inv.initial_flush {s : St} (inv : Inv s) (hn : 1 ≤ s.nextReq) :
    s.initFlushed = true ∧ ∃ f, s.flushes[0]? = some f ∧ f.origin = none ∧ f.st.over = true := by
  obtain ⟨f, hf, hover⟩ := inv.lst.pos.ord 0 hn
  exact ⟨inv.ctl.flushed_of_pos (by omega), f, hf, inv.lst.pos.orig 0 f hf, hover⟩

theorem Inv.notify_enabled {s : St} (inv : Inv s) (hcap : 1 ≤ s.cap) :
    s.tokens ≤ 1 ∧ ∀ j f, s.flushes[j]? = some f → f.st = .completed → ∃ s', step s (.notify j) = some s' := by
  obtain ⟨h1, h2, h3⟩ := inv.chain
  have hW : s.nextResp ≤ s.waits := by have := inv.ctl.req; have := inv.ctl.wait; omega
  refine ⟨by omega, fun j f hf hst => ?_⟩
  -- a completed, un-notified flush exists: strictly fewer notified than flushes
  have hlt : notifiedCount s.flushes < s.flushes.length :=
    Nat.lt_of_le_of_ne h2 fun hall => by
      cases (all_notified s.flushes hall f (List.mem_of_getElem? hf)).symm.trans hst
  exact ⟨_, by simp only [step, hf]; exact if_pos ⟨hst, by omega⟩⟩

theorem Inv.early_empty {s : St} (inv : Inv s) (h : s.initFlushed = false) :
    s.flushes = [] ∧ s.doneProcessed = 0 ∧ s.doneQueued = 0 := by
  have := (inv.ctl.unflushed h).2; have hlen := inv.lst.len
  simp only [h, Bool.false_eq_true, if_false] at hlen
  exact ⟨List.eq_nil_of_length_eq_zero (by omega), by omega, by omega⟩

theorem ctl_step {s s' : St} {a : Act} (c : Ctl s) (h : Step s a s') (henv : s'.doneEmitted ≤ s'.nextResp) :
    Ctl s' := by
  cases h with
  | register hpc | subscribe hpc | serverFail hpc | initError hpc | windowElapsed hpc | hbInitFlush hpc
  | hbWait hpc | hbNext hpc | rtInvoke hpc | rtShutdown hpc =>
    -- the control point is known before and after: every clause is a linear fact about the counters
    have ⟨req, wait, early, flushed, fail, ierr, tok, tokNonneg, done, _⟩ := c
    simp [hpc, Pc.early] at req wait early flushed fail ierr
    refine ⟨?_, ?_, ?_, ?_, ?_, ?_, ?_, ?_, done, henv⟩ <;> simp [Pc.early] <;> omega
  | accept | otherRecord | skip | postBegin | postEnd => exact { c with }
  | rtDone => exact { c with done := by have := c.done; dsimp only; omega, env := henv }
  | teleFlush hq => exact { c with done := by have := c.done; dsimp only; omega }
  | notify =>
    exact { c with tok := by have := c.tok; dsimp only [setFlush]; omega
                   tokNonneg := by have := c.tokNonneg; dsimp only [setFlush]; omega }

theorem lst_step {s s' : St} {a : Act} (inv : Inv s) (h : Step s a s') : Lst s' := by
  have ⟨c, l⟩ := inv
  cases h with
  | register | subscribe | serverFail | initError | windowElapsed | hbWait | rtInvoke | rtShutdown | rtDone
  | otherRecord => exact { l with }
  | hbNext hpc =>
    refine { l with pos := { l.pos with ord := ?_ } }
    obtain ⟨-, hall, hlen⟩ := inv.caught_up (.inl hpc)
    have hw := c.wait
    simp only [hpc, if_true] at hw
    intro j hj
    have hj' : j < s.flushes.length := by have : j < s.nextReq + 1 := hj; omega
    refine ⟨s.flushes[j], List.getElem?_eq_getElem hj', ?_⟩
    rw [all_notified s.flushes hall _ (List.getElem_mem hj')]; rfl
  | hbInitFlush hpc =>
    have hif : s.initFlushed = false := by rw [c.flushed, hpc]; rfl
    obtain ⟨hfl, hP, -⟩ := inv.early_empty hif
    exact {
      notif := l.notif.trans (notified_append _ _ (by simp)).symm
      over := l.over.trans (over_append _ _ rfl).symm
      len := by simp [hfl, hP]
      pos := l.pos.flush (by simp [hfl]) (by simp [hfl])
      d2 := fun _ _ hb => nomatch hb }
  | teleFlush hq =>
    have hif : s.initFlushed = true := c.flushed_of_pos (by omega)
    have hlen := l.len
    simp only [hif, if_true] at hlen
    exact {
      notif := l.notif.trans (notified_append _ _ (by simp)).symm
      over := l.over.trans (over_append _ _ rfl).symm
      len := by simp [hif]; omega
      pos := l.pos.flush (by rw [if_neg (by omega)]; congr 1; omega)
        fun q hq hb => by have := l.d2 q hq hb; omega
      d2 := fun _ _ hb => nomatch hb }
  | @accept dp _ _ hfresh =>
    refine { l with pos := l.pos.accept _ hfresh, d2 := fun p hp hb => ?_ }
    simp only [List.mem_append, List.mem_singleton] at hp hb
    rcases hp with hp | rfl
    · rcases hb with hb | hb
      · exact l.d2 p hp hb
      · exact absurd (show (dp, p.2) ∈ s.accepted by rw [← hb]; exact hp) (hfresh p.2)
    · exact Nat.le_of_add_right_le (Nat.le_of_eq c.done)
  | @skip j f hf hst | @postBegin j f hf hst | @postEnd j f hf hst | @notify j f hf hst =>
    -- one flush moves on; the counter that goes with its new status moves with it
    refine { l with notif := ?_, over := ?_, len := List.length_set.trans l.len,
                    pos := l.pos.set hf (by simp [hst, FSt.over]) }
    · have := l.notif; dsimp only [setFlush]; rw [notified_set hf]; simp [hst]; omega
    · have := l.over; dsimp only [setFlush]; rw [over_set hf]; simp [hst, FSt.over]; omega

theorem inv_step {s s' : St} {a : Act} (inv : Inv s) (h : step s a = some s') (henv : envOK s' = true) : Inv s' :=
  ⟨ctl_step inv.ctl (.of_step h) (of_decide_eq_true henv), lst_step inv (.of_step h)⟩

theorem run_eq_foldlM (s : St) (as : List Act) : run s as = as.foldlM (fun s a => (step s a).filter envOK) s :=
  eq_foldlM_of_rec (fun _ => rfl) (fun s a as => by
    rw [run]
    cases step s a with
    | none => rfl
    | some s' => by_cases h : envOK s' = true <;> simp [Option.filter, h]) s as

theorem run_induct {P : St → Prop} {s s' : St} {acts : List Act} (h : run s acts = some s') (h0 : P s)
    (hstep : ∀ {s a s'}, P s → step s a = some s' → envOK s' = true → P s') : P s' :=
  foldlM_inv P (fun _ _ _ hi hs => have ⟨hs, he⟩ := Option.filter_eq_some_iff.mp hs; hstep hi hs he) acts h0
    (run_eq_foldlM s acts ▸ h)

theorem inv_run {s s' : St} {acts : List Act} (inv : Inv s) (h : run s acts = some s') : Inv s' :=
  run_induct h inv inv_step

theorem run_cap {s s' : St} {acts : List Act} (h : run s acts = some s') : s'.cap = s.cap :=
  run_induct (P := fun t => t.cap = s.cap) h rfl fun ht hs _ => by cases Step.of_step hs <;> exact ht

def EarlyIn (s : St) (dp : Nat) : Prop :=
  (s.initFlushed = false ∧ dp ∈ s.buf) ∨ (∃ f, s.flushes[0]? = some f ∧ dp ∈ f.body)

theorem earlyIn_step {s s' : St} {a : Act} (dp : Nat) (inv : Inv s) (h : Step s a s') (he : EarlyIn s dp) :
    EarlyIn s' dp := by
  -- bodies never change and flushes are only appended, so a datapoint in flush 0 stays there
  have keep : ∀ g, (∃ f, s.flushes[0]? = some f ∧ dp ∈ f.body) → ∃ f, (s.flushes ++ [g])[0]? = some f ∧ dp ∈ f.body :=
    fun g ⟨f, hf, hb⟩ => ⟨f, getElem?_append_of_some _ hf, hb⟩
  have set : ∀ j g st', s.flushes[j]? = some g →
      ∃ f, (s.flushes.set j { g with st := st' })[0]? = some f ∧ dp ∈ f.body := by
    intro j g st' hg
    rcases he with ⟨hf, _⟩ | ⟨f, hf0, hb⟩
    · rw [(inv.early_empty hf).1] at hg; cases hg
    · obtain ⟨f', hf', hb', _⟩ := to_set (st' := st') hg hf0
      exact ⟨f', hf', hb' ▸ hb⟩
  cases h with
  | register | subscribe | serverFail | initError | windowElapsed | hbWait | hbNext | rtInvoke | rtShutdown | rtDone
  | otherRecord => exact he
  | accept => exact he.imp (fun ⟨hf, hb⟩ => ⟨hf, List.mem_append_left _ hb⟩) id
  | hbInitFlush =>
    refine Or.inr (he.elim (fun ⟨hf, hb⟩ => ⟨⟨.created, none, s.buf⟩, ?_, hb⟩) (keep _))
    simp [(inv.early_empty hf).1]
  | teleFlush hq =>
    refine Or.inr (he.elim (fun ⟨hf, _⟩ => ?_) (keep _))
    have := (inv.early_empty hf).2.2; omega
  | skip hg | postBegin hg | postEnd hg | notify hg => exact Or.inr (set _ _ _ hg)

theorem earlyIn_run {s s' : St} {acts : List Act} (dp : Nat) (inv : Inv s) (h : run s acts = some s')
    (he : EarlyIn s dp) : EarlyIn s' dp :=
  (run_induct (P := fun t => Inv t ∧ EarlyIn t dp) h ⟨inv, he⟩ fun ⟨i, e⟩ hs henv =>
    ⟨inv_step i hs henv, earlyIn_step dp i (.of_step hs) e⟩).2

end Gsd.Lambda

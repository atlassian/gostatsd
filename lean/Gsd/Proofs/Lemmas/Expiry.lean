import Gsd.Model.Expiry
import Gsd.Proofs.Lemmas.AList
/-! Lemmas for C09.  The aggregate is projected onto one series (`sstep`, `srun`, `lookup_run`).  Between two of its
datapoints the state of a series is a closed formula (`foldl_sstep_idle`); `reported_after_dp` reads it at a flush, and
the C09 theorems are instances of that equation. -/
namespace Gsd.Expiry
open Gsd Gsd.AList

/-- **Obligation on the source's comparison.**  With the direction of the age comparison that `factgen` read from
`isExpired` (`Facts.rel_isExpired`), the model's test is `i ≠ 0 ∧ now − ts > i`; a changed direction in the source makes
this proof fail.  (The conjunct `interval != 0` is written into the model, not read from the source.) -/
theorem isExpired_iff (i now ts : Int) : isExpired i now ts = true ↔ (i ≠ 0 ∧ now - ts > i) := by
  simp [isExpired, Facts.rel_isExpired, relCmp, cmpOp]

theorem isExpired_eq (i now ts : Int) : isExpired i now ts = (decide (i ≠ 0) && decide (now - ts > i)) := by
  rw [Bool.eq_iff_iff, isExpired_iff, Bool.and_eq_true, decide_eq_true_eq, decide_eq_true_eq]

def WF (a : Aggr) : Prop := ∀ ty, NodupKeys (a ty)

theorem wf_init : WF init := fun _ => List.nodup_nil

theorem wf_step (cfg : Config) (a : Aggr) (op : Op) (h : WF a) : WF (step cfg a op).1 := by
  intro ty
  cases op with
  | dp ty' k t d =>
    simp only [step]
    split
    · next e => subst e; exact nodupKeys_upsert _ _ (h ty)
    · exact h ty
  | flush t =>
    exact nodupKeys_filterMapVals _ (h ty)

def sstep (i : Int) (ty : MType) (k : Key) (s : Option Entry) : Op → Option Entry
  | .dp ty' k' t d => if ty' = ty ∧ k' = k then some (mergeE ty s t d) else s
  | .flush t => s.bind (fun e => if isExpired i t e.ts then none else some (zeroE ty e))

def srun (i : Int) (ty : MType) (k : Key) (h : List Op) : Option Entry :=
  h.foldl (sstep i ty k) none

theorem srun_append (i : Int) (ty : MType) (k : Key) (a b : List Op) :
    srun i ty k (a ++ b) = b.foldl (sstep i ty k) (srun i ty k a) := List.foldl_append

theorem lookup_step (cfg : Config) (a : Aggr) (ha : WF a) (op : Op) (ty : MType) (k : Key) :
    lookup k ((step cfg a op).1 ty) = sstep (cfg ty) ty k (lookup k (a ty)) op := by
  cases op with
  | dp ty' k' t d =>
    simp only [step, sstep]
    by_cases hty : ty = ty'
    · subst hty
      simp only [if_true, true_and]
      rw [lookup_upsert]
      split
      · next e => subst e; rfl
      · rfl
    · have hty' : ¬ ty' = ty := fun e => hty e.symm
      simp only [hty, hty', if_false, false_and]
  | flush t =>
    simp only [step, sstep, resetMap]
    rw [lookup_filterMapVals _ _ (ha ty)]

theorem wf_run (cfg : Config) (h : List Op) : WF (run cfg h) :=
  List.foldlRecOn h _ wf_init fun a ha op _ => wf_step cfg a op ha

theorem lookup_foldl_step (cfg : Config) (h : List Op) (a : Aggr) (ha : WF a) (ty : MType) (k : Key) :
    lookup k (h.foldl (fun a op => (step cfg a op).1) a ty) = h.foldl (sstep (cfg ty) ty k) (lookup k (a ty)) := by
  induction h generalizing a with
  | nil => rfl
  | cons op h ih => rw [List.foldl_cons, List.foldl_cons, ih _ (wf_step cfg a op ha), lookup_step cfg a ha]

theorem lookup_run (cfg : Config) (h : List Op) (ty : MType) (k : Key) :
    lookup k (run cfg h ty) = srun (cfg ty) ty k h :=
  lookup_foldl_step cfg h init wf_init ty k

theorem lookup_viewAt (cfg : Config) (h : List Op) (ty : MType) (k : Key) :
    lookup k (viewAt cfg h ty) = (srun (cfg ty) ty k h).map (viewVal ty) := by
  simp only [viewAt, viewOf]
  rw [lookup_mapVals, lookup_run]

theorem isDpFor_dp (ty ty' : MType) (k k' : Key) (t : Int) (d : Dp) :
    (Op.dp ty' k' t d).isDpFor ty k = true ↔ (ty' = ty ∧ k' = k) := by
  simp [Op.isDpFor]

theorem lastDp_cons (ty : MType) (k : Key) (op : Op) (rest : List Op) :
    lastDp ty k (op :: rest) =
      (lastDp ty k rest).or (match op with
        | .dp ty' k' t d => if ty' = ty ∧ k' = k then some (t, d, rest) else none
        | .flush _ => none) := by
  simp only [lastDp]; cases lastDp ty k rest <;> rfl

theorem lastDp_none_iff (ty : MType) (k : Key) (h : List Op) : lastDp ty k h = none ↔ NoDp ty k h := by
  induction h with
  | nil => exact ⟨fun _ _ h => (nomatch h), fun _ => rfl⟩
  | cons op rest ih =>
    rw [show NoDp ty k (op :: rest) ↔ op.isDpFor ty k = false ∧ NoDp ty k rest from List.forall_mem_cons, ← ih,
      lastDp_cons, Option.or_eq_none_iff, and_comm]
    refine and_congr_left' ?_
    cases op with
    | flush t => exact ⟨fun _ => rfl, fun _ => rfl⟩
    | dp ty' k' t d =>
      simp only [Op.isDpFor, ite_eq_right_iff, reduceCtorEq, imp_false, Bool.and_eq_false_iff, decide_eq_false_iff_not,
        Classical.not_and_iff_not_or_not]

theorem lastDp_some_iff (ty : MType) (k : Key) (h : List Op) (T : Int) (d : Dp) (b : List Op) :
    lastDp ty k h = some (T, d, b) ↔ ∃ a, h = a ++ Op.dp ty k T d :: b ∧ NoDp ty k b := by
  induction h with
  | nil => exact ⟨fun e => (nomatch e), fun ⟨a, ha, _⟩ => by cases a <;> cases ha⟩
  | cons op rest ih =>
    rw [lastDp_cons, Option.or_eq_some_iff, ih, lastDp_none_iff]
    constructor
    · rintro (⟨a, rfl, hb⟩ | ⟨hn, hx⟩)
      · exact ⟨op :: a, rfl, hb⟩
      · cases op with
        | flush t => cases hx
        | dp ty' k' t d' =>
          dsimp only at hx
          split at hx
          · next hm => obtain ⟨rfl, rfl⟩ := hm; cases hx; exact ⟨[], rfl, hn⟩
          · cases hx
    · rintro ⟨a, ha, hb⟩
      cases a with
      | nil => cases ha; exact Or.inr ⟨hb, by simp only [and_self, if_true]⟩
      | cons x a' => cases ha; exact Or.inl ⟨a', rfl, hb⟩

theorem flushTimes_append (a b : List Op) : flushTimes (a ++ b) = flushTimes a ++ flushTimes b := by
  induction a with
  | nil => simp [flushTimes]
  | cons x a ih => cases x <;> simp [flushTimes, ih]

theorem mem_flushTimes (g : Int) (b : List Op) : g ∈ flushTimes b ↔ Op.flush g ∈ b := by
  induction b with
  | nil => simp [flushTimes]
  | cons x b ih => cases x <;> simp [flushTimes, ih]

theorem nondecreasing_before {a : List Op} {x : Op} {b : List Op} (hm : Nondecreasing (a ++ x :: b)) :
    ∀ op ∈ a, op.time ≤ x.time := fun op hop =>
  (List.pairwise_append.1 hm).2.2 op hop x List.mem_cons_self

theorem zeroE_ts (ty : MType) (e : Entry) : (zeroE ty e).ts = e.ts := by cases ty <;> rfl

theorem zeroE_idem (ty : MType) (e : Entry) : zeroE ty (zeroE ty e) = zeroE ty e := by cases ty <;> rfl

theorem mergeE_ts_eq (ty : MType) (s : Option Entry) (t : Int) (d : Dp) :
    (mergeE ty s t d).ts = match s with | none => t | some e => imax e.ts t := by
  cases s with
  | none => rfl
  | some e => cases ty <;> simp only [mergeE, imax] <;> split <;> rfl

theorem sstep_of_not_dpFor (i : Int) (ty : MType) (k : Key) (s : Option Entry) {ty' : MType} {k' : Key} (t : Int)
    (d : Dp) (h : (Op.dp ty' k' t d).isDpFor ty k = false) : sstep i ty k s (.dp ty' k' t d) = s := by
  have : ¬ (ty' = ty ∧ k' = k) := fun hh => by rw [(isDpFor_dp ..).2 hh] at h; cases h
  simp only [sstep, this, if_false]

theorem foldl_sstep_none (i : Int) (ty : MType) (k : Key) {b : List Op} (hb : NoDp ty k b) :
    b.foldl (sstep i ty k) none = none := by
  induction b with
  | nil => rfl
  | cons op b ih =>
    obtain ⟨h1, h2⟩ := List.forall_mem_cons.1 hb
    cases op with
    | dp ty' k' t d => rw [List.foldl_cons, sstep_of_not_dpFor _ _ _ _ _ _ h1]; exact ih h2
    | flush t => exact ih h2

/-- the value is as zeroed by the first flush: `zeroE` is idempotent and keeps the timestamp -/
theorem foldl_sstep_idle (i : Int) (ty : MType) (k : Key) {b : List Op} (hb : NoDp ty k b) (e : Entry) :
    b.foldl (sstep i ty k) (some e) =
      if (flushTimes b).all (fun g => !isExpired i g e.ts) then some (if flushTimes b = [] then e else zeroE ty e)
      else none := by
  induction b generalizing e with
  | nil => rfl
  | cons op b ih =>
    obtain ⟨h1, h2⟩ := List.forall_mem_cons.1 hb
    cases op with
    | dp ty' k' t d => rw [List.foldl_cons, sstep_of_not_dpFor _ _ _ _ _ _ h1]; exact ih h2 e
    | flush t =>
      simp only [List.foldl_cons, sstep, Option.bind_some, flushTimes, List.all_cons]
      by_cases hx : isExpired i t e.ts = true
      · simp only [hx, if_true, Bool.not_true, Bool.false_and, Bool.false_eq_true, if_false]
        exact foldl_sstep_none i ty k h2
      · simp only [hx, if_false, ih h2, zeroE_ts, zeroE_idem, Bool.not_false, Bool.true_and, reduceCtorEq, ite_self]

/-- the timestamp of a stored series is the time of one of its datapoints: whatever holds of all those times holds of it -/
theorem srun_ts (i : Int) (ty : MType) (k : Key) (P : Int → Prop) (h : List Op)
    (hP : ∀ op ∈ h, op.isDpFor ty k = true → P op.time) (e : Entry) (he : srun i ty k h = some e) : P e.ts := by
  refine List.foldlRecOn (motive := fun s => ∀ e, s = some e → P e.ts) h _ (fun _ h => by cases h) ?_ e he
  intro s hs op hop e he
  cases op with
  | dp ty' k' t d =>
    simp only [sstep] at he
    split at he
    · next hm =>
      have ht : P t := hP _ hop ((isDpFor_dp ..).2 hm)
      rw [← Option.some.inj he, mergeE_ts_eq]
      cases s with
      | none => exact ht
      | some e₀ =>
        simp only [imax]
        split
        · exact ht
        · exact hs e₀ rfl
    · exact hs e he
  | flush t =>
    obtain ⟨e₀, rfl, he'⟩ := Option.bind_eq_some_iff.1 he
    split at he'
    · cases he'
    · rw [← Option.some.inj he', zeroE_ts]; exact hs e₀ rfl

theorem mergeE_srun_ts (i : Int) (ty : MType) (k : Key) (a : List Op) (T : Int) (d : Dp)
    (ha : ∀ op ∈ a, op.isDpFor ty k = true → op.time ≤ T) : (mergeE ty (srun i ty k a) T d).ts = T := by
  rw [mergeE_ts_eq]
  cases hs : srun i ty k a with
  | none => rfl
  | some e₀ =>
    simp only [imax]
    split
    · rfl
    · next hlt => exact Int.le_antisymm (srun_ts i ty k (· ≤ T) a ha e₀ hs) (Int.not_lt.1 hlt)

theorem srun_after_dp (i : Int) (ty : MType) (k : Key) (a : List Op) (T : Int) (d : Dp) {b : List Op}
    (hb : NoDp ty k b) :
    srun i ty k (a ++ Op.dp ty k T d :: b) =
      if (flushTimes b).all (fun g => !isExpired i g (mergeE ty (srun i ty k a) T d).ts) then
        some (if flushTimes b = [] then mergeE ty (srun i ty k a) T d else zeroE ty (mergeE ty (srun i ty k a) T d))
      else none := by
  rw [srun_append, List.foldl_cons]
  simp only [sstep, and_self, if_true]
  exact foldl_sstep_idle i ty k hb _

theorem reported_after_dp (cfg : Config) (ty : MType) (k : Key) (a : List Op) (T : Int) (d : Dp) {b : List Op}
    (ha : ∀ op ∈ a, op.isDpFor ty k = true → op.time ≤ T) (hb : NoDp ty k b) :
    reported cfg (a ++ Op.dp ty k T d :: b) ty k = (flushTimes b).all (fun g => !isExpired (cfg ty) g T) := by
  unfold reported
  rw [lookup_viewAt, Option.isSome_map, srun_after_dp _ _ _ _ _ _ hb, mergeE_srun_ts _ _ _ _ _ _ ha]
  cases (flushTimes b).all (fun g => !isExpired (cfg ty) g T) <;> rfl

theorem all_not_expired_iff (i T : Int) (b : List Op) :
    (flushTimes b).all (fun g => !isExpired i g T) = true ↔ ∀ g, Op.flush g ∈ b → ¬ (i ≠ 0 ∧ g - T > i) := by
  simp only [List.all_eq_true, mem_flushTimes, Bool.not_eq_true', ← Bool.not_eq_true, isExpired_iff]

theorem reported_of_noDp (cfg : Config) (ty : MType) (k : Key) {h : List Op} (hn : NoDp ty k h) :
    reported cfg h ty k = false := by
  unfold reported
  rw [lookup_viewAt, srun, foldl_sstep_none _ _ _ hn]
  rfl

theorem persist_zeroed (i : Int) (ty : MType) (k : Key) (pre : List Op) (t : Int) (mid : List Op)
    (hn : NoDp ty k mid) (e' : Entry) (hs : srun i ty k (pre ++ Op.flush t :: mid) = some e') :
    ∃ e, srun i ty k pre = some e ∧ e' = zeroE ty e := by
  have hn' : NoDp ty k (Op.flush t :: mid) := List.forall_mem_cons.2 ⟨rfl, hn⟩
  rw [srun_append] at hs
  cases hp : srun i ty k pre with
  | none => rw [hp, foldl_sstep_none _ _ _ hn'] at hs; cases hs
  | some e =>
    rw [hp, foldl_sstep_idle _ _ _ hn', flushTimes, if_neg (List.cons_ne_nil _ _)] at hs
    split at hs
    · exact ⟨e, rfl, (Option.some.inj hs).symm⟩
    · cases hs

theorem step_congr (cfg cfg' : Config) (a a' : Aggr) (op : Op) (ty : MType)
    (hc : cfg ty = cfg' ty) (ha : a ty = a' ty) : (step cfg a op).1 ty = (step cfg' a' op).1 ty := by
  cases op with
  | dp ty' k t d =>
    simp only [step]
    split
    · next e => subst e; rw [ha]
    · exact ha
  | flush t => simp only [step, hc, ha]

theorem foldl_step_congr (cfg cfg' : Config) (ty : MType) (hc : cfg ty = cfg' ty) (h : List Op) (a a' : Aggr)
    (ha : a ty = a' ty) :
    h.foldl (fun a op => (step cfg a op).1) a ty = h.foldl (fun a op => (step cfg' a op).1) a' ty := by
  induction h generalizing a a' with
  | nil => exact ha
  | cons op h ih => exact ih _ _ (step_congr cfg cfg' a a' op ty hc ha)

theorem viewsFrom_append (cfg : Config) (a : Aggr) (l₁ l₂ : List Op) :
    viewsFrom cfg a (l₁ ++ l₂) =
      viewsFrom cfg a l₁ ++ viewsFrom cfg (l₁.foldl (fun a op => (step cfg a op).1) a) l₂ := by
  induction l₁ generalizing a with
  | nil => rfl
  | cons op l ih => cases op <;> simp [viewsFrom, step, ih]

end Gsd.Expiry

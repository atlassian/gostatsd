import Gsd.Proofs.Lemmas.Cloud
/-!
# C11 — cloud enrichment forwards every item exactly once, correctly tagged

Model: `Gsd/Model/Cloud.lean` (the owner loop of `CloudHandler.Run` plus the caller-side halves of
`DispatchMetricMap` / `DispatchEvent`).  `fix = false` is the bookkeeping of the pinned tree, `fix = true` the
repaired one (`Cloud.d7Fixed` selects which one the driver runs).  Every theorem below except `C11_gauges`
holds for both; `C11_gauges` is false for the pinned tree (`C11_D7_witness_*`, defect D7).
-/
namespace Gsd
open AList Cloud

section content
variable {α : Type} [AddCommMonoid α]

/-- **C11_rekey_conserves.**  Enriching and re-keying a list of entries into a fresh map (`updateAndDispatchMetrics`,
the hit branch of `DispatchMetricMap`) yields a map that aggregates exactly the enriched entries, one leaf
per entry: nothing is lost or counted twice when re-keyed series collide. -/
theorem C11_rekey_conserves (f : String → Option Inst) (es : List (Ent α)) :
    AggMM (rekeyEntries f es) (es.map (fun e => (e.rekey (f e.src)).single)) := by
  simpa [rekeyEntries, List.map_map, Function.comp_def] using aggMM_ofEntries (es.map (fun e => e.rekey (f e.src)))

set_option linter.unusedSectionVars false in
/-- **C11_tagged.**  An entry / event enriched with an instance carries the instance id as source and its own
tags plus the instance's tags; enriched with no instance (failed lookup, negative cache, empty source) it keeps
its source and tags (map entries: up to the order of the tags, which `FormatTagsKey` sorts in place).  The name
is never touched. -/
theorem C11_tagged (e : Ent α) (ev : Event) (i : Inst) :
    (e.rekey (some i)).src = i.id ∧ (e.rekey (some i)).tags.Perm (e.tags ++ i.tags) ∧
    (e.rekey none).src = e.src ∧ (e.rekey none).tags.Perm e.tags ∧
    (∀ o, (e.rekey o).key.1 = e.key.1 ∧ (e.rekey o).key.2 = joinKey (e.rekey o).src (e.rekey o).tags) ∧
    enrichEvent (some i) ev = { ev with tags := ev.tags ++ i.tags, src := i.id } ∧ enrichEvent none ev = ev := by
  cases e <;> exact ⟨rfl, sortTags_perm _, rfl, sortTags_perm _, fun _ => ⟨rfl, rfl⟩, rfl, rfl⟩

/-- **C11_exactly_once.**  For every action sequence `as` (any cache view at any arrival, any interleaving) there
is a ledger — `origE`: (original event, instance applied) for every delivered event in delivery order; `recs`: one
record per delivered metric map in delivery order; `pend`: the arrived entries parked per source — such that

* the delivered events are the originals enriched with the recorded instance, the originals together with the
  parked events are a permutation of the arrived events (each event is delivered once or still parked, never
  both, never lost), and each recorded instance is one the cache answered at an arrival of that event (`some i`, with
  `i = none` for the negative cache and the empty source) or one a completion of its source's lookup carried (`JustE`
  asks for such an action somewhere in `as`, not for the very one that let the event go);
* the delivered maps are the records' outputs, the records' entries together with the parked entries are a
  permutation of the arrived entries, every record is justified the same way, a released parked map aggregates
  exactly its entries (`Sound`), and every delivered map aggregates exactly the enriched entries
  (`C11_rekey_conserves`);
* every parked map aggregates exactly the entries parked for its source. -/
theorem C11_exactly_once (fix : Bool) (as : List (Action α)) :
    ∃ (origE : List (Event × Option Inst)) (pend : AList String (List (Ent α))) (recs : List (MRec α)),
      deliveredEvents (run fix as) = origE.map (fun p => enrichEvent p.2 p.1) ∧
      (origE.map Prod.fst ++ parkedEvents (run fix as)).Perm (arrivedEvents as) ∧
      (∀ p ∈ origE, JustE as p) ∧
      deliveredMaps (run fix as) = recs.map MRec.out ∧
      (recs.flatMap (·.ents) ++ pend.flatMap (·.2)).Perm (arrivedEntries as) ∧
      (∀ r ∈ recs, r.Sound ∧ JustM as r ∧
        AggMM r.out (((match r.mid with | none => r.ents | some m => entries m)).map (fun (e : Ent α) => (e.rekey (r.f e.src)).single))) ∧
      (∀ s, Link (lookup s (run fix as).awaitingMetrics) (lookup s pend) s) := by
  obtain ⟨origE, e1, e2, e3⟩ := run_inv fix (fun as st => ∃ origE, EvOK origE as st)
    ⟨[], rfl, List.Perm.nil, by simp⟩ (fun _ _ a hw ⟨_, h⟩ => evOK_step fix hw h a) as
  obtain ⟨pend, recs, m1, m2, m3, m4⟩ := run_inv fix (fun as st => ∃ pend recs, MetOK pend recs as st)
    ⟨[], [], ⟨rfl, by simp⟩, rfl, by simp, List.Perm.nil⟩ (fun _ _ a hw ⟨_, _, h⟩ => metOK_step fix hw h a) as
  refine ⟨origE, pend, recs, e1, e2, e3, m2, m4, fun r hr => ⟨(m3 r hr).1, (m3 r hr).2, ?_⟩, m1.link⟩
  unfold MRec.out
  cases r.mid <;> exact C11_rekey_conserves _ _

end content

section machine
variable {α : Type} [Add α]

/-- **C11_immediate.**  `outbound` = what the stage has handed to downstream (`delivered`, plus `held` while
downstream is blocked; `hh` holds in every reachable state, `C11_blocked_downstream`).  (a) The entries of a batch
whose source is a cache hit (or empty) leave in the same action, as one map, enriched with what the cache answered;
(b) if the whole batch hits, nothing is parked and no lookup is requested; (c) an event whose source hits leaves in
the same action, enriched, and likewise nothing is parked or requested. -/
theorem C11_immediate (fix : Bool) (st : St α) (b : MM α) (e : Event) (pk : Peek) (hh : st.blocked = false → st.held = []) :
    outbound (step fix st (.arriveMetrics b pk)) = outbound st ++
      (if ((entries b).filter (fun x => isHit pk x.src)).isEmpty then []
       else [.metrics (rekeyEntries (instOf pk) ((entries b).filter (fun x => isHit pk x.src)))]) ∧
    ((∀ x ∈ entries b, isHit pk x.src = true) →
      (step fix st (.arriveMetrics b pk)).awaitingMetrics = st.awaitingMetrics ∧
      (step fix st (.arriveMetrics b pk)).awaitingEvents = st.awaitingEvents ∧
      (step fix st (.arriveMetrics b pk)).toLookup = st.toLookup) ∧
    (∀ i, cacheView pk e.src = some i →
      outbound (step fix st (.arriveEvent e pk)) = outbound st ++ [.event (enrichEvent i e)] ∧
      (step fix st (.arriveEvent e pk)).awaitingMetrics = st.awaitingMetrics ∧
      (step fix st (.arriveEvent e pk)).awaitingEvents = st.awaitingEvents ∧
      (step fix st (.arriveEvent e pk)).toLookup = st.toLookup) := by
  refine ⟨?_, fun hall => ?_, fun i hi => ?_⟩
  · exact outbound_step fix st (.arriveMetrics b pk) hh nofun
  · have : (entries b).filter (fun x => !isHit pk x.src) = [] :=
      List.filter_eq_nil_iff.2 fun x hx => by simp [hall x hx]
    rw [step_arriveMetrics, this, List.foldl_nil, deliver_eq]
    exact ⟨rfl, rfl, rfl⟩
  · refine ⟨(outbound_step fix st (.arriveEvent e pk) hh nofun).trans (by simp only [handedOver, hi]; rfl), ?_⟩
    simp only [step, hi]
    rw [deliver_eq]
    exact ⟨rfl, rfl, rfl⟩

/-- **C11_release.**  In every reachable state, the completion of the lookup of `s` (whatever its result) hands
to downstream the parked map of `s` (enriched with the result, re-keyed) and its parked events in order (enriched) — the map first in the model; in the code
the two are handed over by two goroutines with no order between them —, and afterwards nothing of `s` is parked. -/
theorem C11_release (fix : Bool) (as : List (Action α)) (s : String) (r : Option Inst) :
    let st := run fix as
    let st' := step fix st (.info s r)
    parked st' s = false ∧
    outbound st' = outbound st ++
      (match lookup s st.awaitingMetrics with
       | some m => [.metrics (rekeyEntries (fun _ => r) (entries m))]
       | none => []) ++
      ((lookup s st.awaitingEvents).getD []).map (fun e => .event (enrichEvent r e)) := by
  intro st st'
  have hw : WFst st := wf_run fix as
  refine ⟨by simp [st', parked_info fix st s r hw], ?_⟩
  rw [List.append_assoc, outbound_step fix st _ hw.heldOK (fun s _ _ => hw.ne_nil s)]
  simp only [handedOver]
  cases lookup s st.awaitingMetrics <;> rfl

/-- **C11_blocked_downstream.**  In every reachable state: (a) nothing is held back unless downstream is blocked
(so `outbound = delivered` whenever downstream is taking deliveries); (b) `unblock` hands downstream exactly what
was held, in the order it was produced, and holds nothing afterwards; (c) while downstream is blocked no action
other than `unblock` changes what downstream has taken — the owner loop goes on (all other theorems hold for
sequences containing `block` / `unblock`: arrivals are parked, lookups requested, completions release into
`held`). -/
theorem C11_blocked_downstream (fix : Bool) (as : List (Action α)) :
    let st := run fix as
    (st.blocked = false → st.held = []) ∧
    ((step fix st .unblock).delivered = st.delivered ++ st.held ∧ (step fix st .unblock).held = [] ∧
      (step fix st .unblock).blocked = false ∧ outbound (step fix st .unblock) = outbound st) ∧
    (st.blocked = true → ∀ a, a ≠ Action.unblock → (step fix st a).delivered = st.delivered) := by
  intro st
  have hw : WFst st := wf_run fix as
  refine ⟨hw.heldOK, ⟨rfl, rfl, rfl, by simp [outbound, step]⟩, ?_⟩
  intro hb a ha
  cases a with
  | arriveMetrics b pk =>
    rw [step_arriveMetrics, foldl_parkEnt_proj (·.delivered) fix (fun _ _ => rfl), deliver_eq]
    simp [hb]
  | arriveEvent e pk => simp only [step]; split <;> simp [deliver_eq, hb, parkEvent]
  | sendLookup => simp only [step]; split <;> rfl
  | info s r => rw [step_info fix st s r (hw.ne_nil s), deliver_eq]; simp [hb]
  | emit | block => rfl
  | unblock => exact absurd rfl ha

/-- **C11_parked_has_lookup.**  In every reachable state a source with parked metrics or events is waiting to be
written to the lookup sink or has been written and not answered — so the completion of that lookup releases it. -/
theorem C11_parked_has_lookup (fix : Bool) (as : List (Action α)) (s : String)
    (h : parked (run fix as) s = true) : s ∈ (run fix as).toLookup ++ (run fix as).inFlight := by
  have := run_inv fix (fun _ => OutInv (· ≥ ·)) (fun _ => Nat.zero_le _) (fun _ => outInv_ge_step fix) as s
  rw [h] at this
  exact List.count_pos_iff.1 this

/-- **C11_one_outstanding.**  If the cache only answers what it was asked (`RunOK`: every `info s _` happens while
`s` is in flight), then in every reachable state each source has exactly one outstanding lookup (pending or in
flight) while something is parked for it, and none otherwise — in particular never two. -/
theorem C11_one_outstanding (fix : Bool) (as : List (Action α)) (henv : RunOK fix init as) (s : String) :
    ((run fix as).toLookup ++ (run fix as).inFlight).count s = (if parked (run fix as) s then 1 else 0) ∧
    ((run fix as).toLookup ++ (run fix as).inFlight).count s ≤ 1 := by
  have key : ∀ (as : List (Action α)) (st : St α), WFst st → OutInv (· = ·) st → RunOK fix st as → OutInv (· = ·) (as.foldl (step fix) st) := by
    intro as
    induction as with
    | nil => exact fun _ _ h _ => h
    | cons a t ih => exact fun st hw h hr => ih _ (wf_step fix st a hw) (outInv_eq_step fix st a hr.1 hw h) hr.2
  have : ((run fix as).toLookup ++ (run fix as).inFlight).count s = if parked (run fix as) s then 1 else 0 :=
    key as _ wf_init (fun s => by simp [parked, init]) henv s
  refine ⟨this, ?_⟩
  rw [this]; split <;> omega

/-- **C11_gauges.**  With the repaired bookkeeping (`fix = true`), in every reachable state:
`hosts_queued{type:metric}` = number of sources with parked metrics, `hosts_queued{type:event}` = number of
sources with parked events, `items_queued{type:event}` = number of parked events (the parking tables have one
entry per source, and no empty entry). -/
theorem C11_gauges (as : List (Action α)) :
    let st := run true as
    st.metricHosts = (st.awaitingMetrics.length : Int) ∧ NodupKeys st.awaitingMetrics ∧
    st.eventHosts = (st.awaitingEvents.length : Int) ∧ NodupKeys st.awaitingEvents ∧
    (∀ s l, lookup s st.awaitingEvents = some l → l ≠ []) ∧
    st.eventItems = ((parkedEvents st).length : Int) := by
  obtain ⟨h1, h2, h3⟩ := run_inv true (fun _ => GaugeInv) ⟨rfl, rfl, rfl⟩ (fun _ => gaugeInv_step) as
  have hw := wf_run true as
  exact ⟨h1, hw.ndM, h2, hw.ndE, hw.neE, h3⟩

end machine

namespace C11ex

def miss : Peek := fun _ => none
def i1 : Inst := { id := "i-1", tags := ["region:r1", "az:b"] }
def hit1 : Peek := fun s => if s = "h1" then some (some i1) else none
def cnt (src : String) (v : Int) : MM Int :=
  { counters := [(("c", joinKey src []), { value := v, ts := 1, src := src, tags := [] })] }
def ev (n src : String) : Event := { body := [n], tags := ["t:1"], src := src }

def d7MetricsFirst : List (Action Int) :=
  [.arriveMetrics (cnt "h1" 1) miss, .arriveEvent (ev "e1" "h1") miss, .sendLookup, .info "h1" none, .emit]
def d7EventFirst : List (Action Int) :=
  [.arriveEvent (ev "e1" "h1") miss, .arriveMetrics (cnt "h1" 1) miss, .sendLookup, .info "h1" none, .emit]

/-- two sources, a batch with hit and miss, a repeated batch while pending, an instance result -/
def rich : List (Action Int) :=
  [.arriveMetrics (MM.merge (cnt "h1" 1) (cnt "h2" 2)) hit1, .arriveEvent (ev "e1" "h2") miss,
   .arriveMetrics (cnt "h2" 5) miss, .sendLookup, .emit, .info "h2" (some i1), .emit]

/-- downstream blocks while h2's two parked events are being released; h2 keeps sending; downstream resumes -/
def stuck : List (Action Int) :=
  [.arriveEvent (ev "e1" "h2") miss, .arriveEvent (ev "e2" "h2") miss, .sendLookup, .block, .info "h2" (some i1),
   .arriveEvent (ev "e3" "h2") miss, .arriveEvent (ev "e4" "h2") miss, .sendLookup, .unblock, .info "h2" none]

end C11ex
open C11ex

/-- **D7, metrics first.**  On the pinned tree's bookkeeping nothing is parked at the end, yet the event-hosts
counter is −1 (the `uint64` in the code: 2⁶⁴−1): `C11_gauges` is false for `fix = false`. -/
theorem C11_D7_witness_metrics_first :
    (run false d7MetricsFirst).eventHosts = -1 ∧ (run false d7MetricsFirst).awaitingEvents.length = 0 ∧
    (run false d7MetricsFirst).emitted = [(0, 2, 0, -1, 0)] := by decide

/-- **D7, event first.**  Symmetrically the metric-hosts counter underflows. -/
theorem C11_D7_witness_event_first :
    (run false d7EventFirst).metricHosts = -1 ∧ (run false d7EventFirst).awaitingMetrics.length = 0 ∧
    (run false d7EventFirst).emitted = [(0, 2, -1, 0, 0)] := by decide

/-- the repaired bookkeeping on the same histories -/
example : (run true d7MetricsFirst).emitted = [(0, 2, 0, 0, 0)] ∧ (run true d7EventFirst).emitted = [(0, 2, 0, 0, 0)] := by decide

/-- `C11_one_outstanding`'s hypothesis is satisfiable on a history with parking, a repeated batch and a release -/
example : RunOK false init rich ∧ RunOK true init rich := by
  refine ⟨?_, ?_⟩ <;> unfold rich <;> simp only [RunOK, EnvOK, and_true, true_and] <;> decide

/-- on `rich`: h2 is parked (metrics twice, one event) with one lookup, the three gauges 1 before the completion and 0
after; the hit part of the first batch left at once -/
example :
    (run true rich).emitted = [(1, 3, 1, 1, 1), (1, 3, 0, 0, 0)] ∧ (run true rich).sent = ["h2"] ∧
    (run true rich).delivered.length = 3 ∧ parked (run true (rich.take 4)) "h2" = true ∧
    parked (run true rich) "h2" = false := by decide

/-- the delivered maps of `rich`: the hit entry of the first batch immediately (tags sorted, source replaced), the
two parked counters of h2 merged (2 + 5) and enriched on completion -/
example :
    (deliveredMaps (run true rich)).map (·.counters) =
      [ [(("c", "az:b,region:r1,s:i-1"), { value := 1, ts := 1, src := "i-1", tags := ["az:b", "region:r1"] })],
        [(("c", "az:b,region:r1,s:i-1"), { value := 7, ts := 1, src := "i-1", tags := ["az:b", "region:r1"] })] ] ∧
    deliveredEvents (run true rich) = [{ body := ["e1"], tags := ["t:1", "region:r1", "az:b"], src := "i-1" }] := by
  decide +kernel

/-- `C11_blocked_downstream` on a concrete history: while downstream is blocked the completion releases into `held`
(nothing reaches `delivered`), the stage goes on parking the newcomers and requests a second lookup; `unblock`
delivers e1, e2 in order, the second completion e3, e4 — each once, the first two tagged -/
example :
    (run true (stuck.take 8)).delivered.length = 0 ∧ (run true (stuck.take 8)).held.length = 2 ∧
    (run true (stuck.take 8)).sent = ["h2", "h2"] ∧ parked (run true (stuck.take 8)) "h2" = true ∧
    (deliveredEvents (run true stuck)).map (fun e => (e.body, e.src)) =
      [(["e1"], "i-1"), (["e2"], "i-1"), (["e3"], "h2"), (["e4"], "h2")] ∧
    (run true stuck).held.length = 0 ∧ RunOK true init stuck := by
  refine ⟨by decide, by decide, by decide, by decide, by decide, by decide, ?_⟩
  unfold stuck; simp only [RunOK, EnvOK, and_true, true_and]; decide

end Gsd

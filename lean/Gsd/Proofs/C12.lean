import Gsd.Model.Cache
import Gsd.Proofs.Lemmas.Cache
/-!
# C12 — the instance cache answers every lookup once and never forgets good data on error

All statements quantify over **every** schedule `acts : List (Action σ ι)` of the transition system
`Gsd.Cache.step` that is enabled from the initial state (`run cfg init acts = some st`), hence over every
grouping of waiting sources into batches, every provider outcome (`outcome : σ → Option ι`, with or without
error), every interleaving of client submissions, cache reads, refresh ticks and time stamps, and every
configuration.
-/
namespace Gsd
open Gsd.AList Gsd.Cache

variable {σ ι : Type} [DecidableEq σ]

/-- The association list that stands for the Go map `cache` never holds two entries for one source: the hypothesis
`NodupKeys st.cache` of the theorems below about a single step or tick holds in every reachable state. -/
theorem C12_cache_is_map (cfg : Config) (acts : List (Action σ ι)) (st : State σ ι)
    (hr : run cfg init acts = some st) : NodupKeys st.cache :=
  (inv_reachable cfg acts st hr).nodup

/-- **C12_one_answer_per_query.**  In every reachable state and for every source `s`: the number of
answers `doLookup` has sent for `s` equals the number of times `s` was put in a batch — whatever the
grouping, the outcome and the error flag were — and each of these answers is in exactly one place:
waiting for the owner, handled and waiting for the consumer, or delivered. -/
theorem C12_one_answer_per_query (cfg : Config) (acts : List (Action σ ι)) (st : State σ ι)
    (hr : run cfg init acts = some st) (s : σ) :
    st.emitted.countP (fun i => decide (i.ip = s)) = st.queried.count s ∧
    st.emitted.countP (fun i => decide (i.ip = s)) =
      st.answers.countP (fun i => decide (i.ip = s)) + st.toReturn.countP (fun i => decide (i.ip = s)) +
      st.delivered.countP (fun i => decide (i.ip = s)) := by
  have hinv := inv_reachable cfg acts st hr
  exact ⟨hinv.perSource s, hinv.conserve _⟩

/-- **C12_no_answer_lost_or_duplicated.**  The same conservation for every predicate on answers (so for
each individual `(ip, instance)` value): nothing is dropped or duplicated between `doLookup` and the
`InfoSource()` consumer. -/
theorem C12_no_answer_lost_or_duplicated (cfg : Config) (acts : List (Action σ ι)) (st : State σ ι)
    (hr : run cfg init acts = some st) (p : Info σ ι → Bool) :
    st.emitted.countP p = st.answers.countP p + st.toReturn.countP p + st.delivered.countP p :=
  (inv_reachable cfg acts st hr).conserve p

/-- **C12_answers_from_map.**  What a batch does: one answer per element of the batch, in order, each
carrying `instances[ip]` of the returned (possibly partial, possibly nil) map; the error flag changes
nothing; the cache is not touched. -/
theorem C12_answers_from_map (cfg : Config) (st st' : State σ ι) (ss : List σ) (o : σ → Option ι) (e : Bool)
    (h : step cfg st (.batch ss o e) = some st') :
    st'.answers = st.answers ++ ss.map (fun s => ({ ip := s, inst := o s } : Info σ ι)) ∧
    st'.queried = st.queried ++ ss ∧ st'.cache = st.cache ∧
    step cfg st (.batch ss o (!e)) = some st' := by
  cases Step.of_step h
  exact ⟨rfl, rfl, rfl, h⟩

/-- **C12_every_submission_queried.**  With a batch limit ≥ 1, a reachable state in which the component
can do nothing more by itself (no `batch`, `handleInfo`, `deliver` is enabled) has nothing waiting
anywhere, and then for every source: #requests (client submissions + refresh re-queues) = #times put in a
batch = #answers delivered to the consumer.  (Liveness under fairness: as long as something is waiting
an internal action is enabled.) -/
theorem C12_every_submission_queried (cfg : Config) (hmax : 1 ≤ cfg.maxBatch)
    (acts : List (Action σ ι)) (st : State σ ι) (hr : run cfg init acts = some st)
    (hq : Quiescent cfg st) :
    st.pending = [] ∧ st.answers = [] ∧ st.toReturn = [] ∧
    ∀ s : σ, st.requested.count s = st.queried.count s ∧
      st.queried.count s = st.delivered.countP (fun i => decide (i.ip = s)) := by
  have hinv := inv_reachable cfg acts st hr
  have hp : st.pending = [] := by
    cases hpd : st.pending with
    | nil => rfl
    | cons x xs =>
      have := hq (.batch [x] (fun _ => none) false) rfl
      have hlen : ¬ cfg.maxBatch < 1 := by omega
      simp [step, hpd, takeOut, hlen] at this
  have ha : st.answers = [] := by
    cases had : st.answers with
    | nil => rfl
    | cons x xs =>
      have := hq (.handleInfo 0) rfl
      simp [step, had] at this
  have ht : st.toReturn = [] := by
    cases htd : st.toReturn with
    | nil => rfl
    | cons x xs =>
      have := hq (.deliver 0) rfl
      simp [step, htd, extract] at this
  refine ⟨hp, ha, ht, ?_⟩
  intro s
  have h1 := hinv.req s
  have h2 := hinv.perSource s
  have h3 := hinv.conserve (fun i => decide (i.ip = s))
  rw [hp] at h1
  rw [ha, ht] at h3
  simp at h1 h3
  exact ⟨h1, by omega⟩

/-- every client submission is recorded as a request (definitional; the refresh re-queues are in
`C12_requery_expired`). -/
theorem C12_submit_is_request (cfg : Config) (st : State σ ι) (s : σ) :
    step cfg st (.submit s) =
      some { st with pending := st.pending ++ [s], requested := st.requested ++ [s] } := rfl

/-- **C12_evict_idle.**  A refresh tick at `t` removes exactly the entries with
`t - lastAccess > idle` (strictly) and leaves every other entry unchanged. -/
theorem C12_evict_idle (cfg : Config) (t : Int) (st : State σ ι) (hn : NodupKeys st.cache) (s : σ) :
    lookup s (tick cfg t st).cache =
      match lookup s st.cache with
      | none => none
      | some h => if t - h.lastAccess > cfg.idle then none else some h := by
  rw [lookup_tick cfg t st hn]
  cases lookup s st.cache with
  | none => rfl
  | some h =>
    simp only [Option.filter, idleOut]
    by_cases hc : t - h.lastAccess > cfg.idle <;> simp [hc]

/-- one step keeps "`s` resolves to `v` and every answer in flight for `s` is a failure" as long as
the provider fails for `s` and the entry is not evicted -/
theorem C12_sticky_step (cfg : Config) (s : σ) (v : ι) (st st' : State σ ι) (a : Action σ ι)
    (hn : NodupKeys st.cache)
    (hpos : peekVal st s = some (some v))
    (hq : ∀ i ∈ st.answers, i.ip = s → i.inst = none)
    (hf : a.failsFor s)
    (hstep : step cfg st a = some st')
    (hk : (lookup s st'.cache).isSome = true) :
    peekVal st' s = some (some v) ∧ (∀ i ∈ st'.answers, i.ip = s → i.inst = none) := by
  constructor
  · rcases peekVal_step hstep s with h | ⟨_, -, ht⟩ | ⟨_, i, _, -, ha, his, h⟩
    · exact h.trans hpos
    · rcases ht hn with h | h
      · simp [peekVal] at h; simp [h] at hk
      · exact h.trans hpos
    · rw [h, hpos, hq i (ha ▸ List.mem_cons_self) his]; rfl
  · intro i hi his
    rcases mem_answers_step hstep hi with hi | ⟨ss, o, e, rfl, -, ho⟩
    · exact hq i hi his
    · rw [ho, his]; exact hf

/-- **C12_sticky_positive.**  Once `Peek(s)` returns the instance `v`, it keeps returning `v` along every
schedule in which the provider never resolves `s` again (it errs, answers nil, or leaves `s` out of its
map — in any batch grouping) for as long as the entry is not evicted; refreshes, re-submissions, reads
and ticks in between change nothing.  (`hq`: the answers already in flight for `s` are failures too — a
positive one would legitimately replace `v`.) -/
theorem C12_sticky_positive (cfg : Config) (s : σ) (v : ι) (st st' : State σ ι) (acts : List (Action σ ι))
    (hn : NodupKeys st.cache)
    (hpos : peekVal st s = some (some v))
    (hq : ∀ i ∈ st.answers, i.ip = s → i.inst = none)
    (hf : ∀ a ∈ acts, Action.failsFor s a)
    (hk : keptAlong cfg s st acts = true)
    (hr : run cfg st acts = some st') :
    peekVal st' s = some (some v) := by
  induction acts generalizing st with
  | nil => simp [run] at hr; subst hr; exact hpos
  | cons a as ih =>
    simp only [run, Option.bind_eq_some_iff] at hr
    obtain ⟨mid, hm, hrest⟩ := hr
    simp only [keptAlong, hm, Bool.and_eq_true] at hk
    have hstep := C12_sticky_step cfg s v st mid a hn hpos hq (hf a List.mem_cons_self) hm hk.1
    exact ih mid (nodupKeys_step hn hm) hstep.1 hstep.2 (fun a ha => hf a (List.mem_cons_of_mem _ ha)) hk.2 hrest

/-- **C12_positive_never_negative.**  Whatever the later outcomes are (failures *or* new data), a positive
entry never turns negative: one step keeps `Peek(s)` a positive hit unless it evicts `s`. -/
theorem C12_positive_never_negative (cfg : Config) (s : σ) (st st' : State σ ι) (a : Action σ ι)
    (hn : NodupKeys st.cache)
    (hpos : ∃ v, peekVal st s = some (some v))
    (hstep : step cfg st a = some st') :
    peekVal st' s = none ∨ ∃ v', peekVal st' s = some (some v') := by
  obtain ⟨v, hv⟩ := hpos
  rcases peekVal_step hstep s with h | ⟨_, -, ht⟩ | ⟨_, i, _, -, -, -, h⟩
  · exact .inr ⟨v, h.trans hv⟩
  · exact (ht hn).imp id fun h => ⟨v, h.trans hv⟩
  · rw [h, hv]
    cases i.inst with
    | none => exact .inr ⟨v, rfl⟩
    | some w => exact .inr ⟨w, rfl⟩

/-- **C12_only_tick_evicts.**  No other action removes an entry. -/
theorem C12_only_tick_evicts (cfg : Config) (st st' : State σ ι) (a : Action σ ι) (s : σ)
    (hstep : step cfg st a = some st') (hnt : ∀ t, a ≠ .tick t)
    (hin : (lookup s st.cache).isSome = true) : (lookup s st'.cache).isSome = true := by
  have hp : ∀ st : State σ ι, (lookup s st.cache).isSome = (peekVal st s).isSome := fun _ => by simp [peekVal]
  rw [hp] at hin ⊢
  rcases peekVal_step hstep s with h | ⟨t, rfl, -⟩ | ⟨_, _, _, -, -, -, h⟩
  · rw [h]; exact hin
  · exact absurd rfl (hnt t)
  · rw [h]; rfl

/-- **C12_requery_expired.**  A refresh tick at `t` asks again for exactly the entries that stay
(`¬ t - lastAccess > idle`) and are past their TTL (`t > expires`, strictly), once each; every such
re-queue is a request in the sense of `C12_every_submission_queried` / `C12_one_answer_per_query`. -/
theorem C12_requery_expired (cfg : Config) (t : Int) (st : State σ ι) (hn : NodupKeys st.cache) (s : σ) :
    let n := match lookup s st.cache with
      | none => 0
      | some h => if ¬ (t - h.lastAccess > cfg.idle) ∧ t > h.expires then 1 else 0
    (tick cfg t st).pending.count s = st.pending.count s + n ∧
    (tick cfg t st).requested.count s = st.requested.count s + n := by
  have hkept : NodupKeys (st.cache.filter (fun e => !idleOut cfg t e.2)) := nodupKeys_filter _ hn
  have hc := count_keys (k := s) (nodupKeys_filter (fun e : σ × Holder ι => expired t e.2) hkept)
  rw [lookup_filter _ _ hkept, lookup_filter _ _ hn, keys] at hc
  simp only [tick, List.count_append, hc]
  cases lookup s st.cache with
  | none => simp
  | some h =>
    simp only [Option.filter, idleOut, expired]
    by_cases h1 : t - h.lastAccess > cfg.idle <;> by_cases h2 : t > h.expires <;> simp [h1, h2]

/-- **C12_expiry_stamp.**  When the owner handles an answer at time `now`, the entry of that source
expires at `now + negTtl` for a nil answer and `now + ttl` for an instance (the TTL follows the answer,
also when the old instance is kept); the access stamp is `now` for a new entry and untouched otherwise. -/
theorem C12_expiry_stamp (cfg : Config) (now : Int) (st st' : State σ ι) (i : Info σ ι) (rest : List (Info σ ι))
    (ha : st.answers = i :: rest) (hstep : step cfg st (.handleInfo now) = some st') :
    ∃ h, lookup i.ip st'.cache = some h ∧
      h.expires = now + (if i.inst.isNone then cfg.negTtl else cfg.ttl) ∧
      h.lastAccess = (match lookup i.ip st.cache with | none => now | some cur => cur.lastAccess) ∧
      h.inst = (match i.inst, lookup i.ip st.cache with
                | some v, _ => some v
                | none, some cur => cur.inst
                | none, none => none) := by
  simp only [step, ha, Option.some.injEq] at hstep; subst hstep
  refine ⟨newHolder cfg now i.inst (lookup i.ip st.cache), ?_, ?_, ?_, ?_⟩
  · rw [(handle_cache cfg now i _).1, lookup_upsert]; simp
  · cases lookup i.ip st.cache <;> simp [newHolder]
  · cases lookup i.ip st.cache <;> simp [newHolder]
  · cases lookup i.ip st.cache <;> cases i.inst <;> simp [newHolder]

/-- **C12_gauges.**  In every reachable state the `cloudprovider.cache_positive` /
`cloudprovider.cache_negative` counters equal the numbers of entries holding an instance / holding nil. -/
theorem C12_gauges (cfg : Config) (acts : List (Action σ ι)) (st : State σ ι)
    (hr : run cfg init acts = some st) :
    st.pos = (st.cache.countP isPos : Nat) ∧ st.neg = (st.cache.countP isNeg : Nat) ∧
    st.pos + st.neg = (st.cache.length : Nat) := by
  have hinv := inv_reachable cfg acts st hr
  refine ⟨hinv.pos_eq, hinv.neg_eq, ?_⟩
  have : st.cache.length = st.cache.countP isPos + st.cache.countP isNeg := by
    rw [List.length_eq_countP_add_countP isPos]
    congr 2; funext e; cases h : e.2.inst <;> simp [isPos, isNeg, h]
  rw [hinv.pos_eq, hinv.neg_eq, this]; simp

section examples

def c12ExCfg : Config := { ttl := 2, negTtl := 1, idle := 3, maxBatch := 2 }

/-- a partial map returned with an error; a failed refresh, which keeps the instance -/
def c12ExActs : List (Action Nat Nat) :=
  [.submit 1, .submit 2, .submit 1,
   .batch [1, 2] (fun s => if s = 1 then some 7 else none) true,
   .batch [1] (fun _ => some 7) false,
   .handleInfo 0, .handleInfo 0, .handleInfo 0, .deliver 0, .deliver 1, .deliver 0,
   .peek 1 1,
   .tick 3,            -- 3 > expires(1)=2: re-queued; 3 - 0 > 3 false for source 2, 3 > 1: re-queued
   .batch [2, 1] (fun _ => none) true,
   .handleInfo 3, .handleInfo 3, .deliver 0, .deliver 0]

example :
    (run c12ExCfg init c12ExActs).map (fun st => (peekVal st 1, peekVal st 2)) = some (some (some 7), some none) ∧
    (run c12ExCfg init c12ExActs).map (fun st => (st.pos, st.neg, st.refPos, st.refNeg)) = some (1, 1, 1, 2) ∧
    (run c12ExCfg init c12ExActs).map (fun st => (st.queried, st.delivered.length, st.pending)) = some ([1, 2, 1, 2, 1], 5, []) ∧
    (run c12ExCfg init c12ExActs).map (fun st => (st.answers.length, st.toReturn.length)) = some (0, 0) :=
  ⟨by decide, by decide, by decide, by decide⟩

/-- boundary of the idle comparison: idle for exactly `idle` is kept, one more is evicted -/
example :
    (run c12ExCfg init ([.submit 1, .batch [1] (fun _ => some 7) false, .handleInfo 0, .deliver 0, .tick 3] : List (Action Nat Nat))).map
      (fun st => (peekVal st 1, st.pos, st.pending)) = some (some (some 7), 1, [1]) ∧
    (run c12ExCfg init ([.submit 1, .batch [1] (fun _ => some 7) false, .handleInfo 0, .deliver 0, .tick 4] : List (Action Nat Nat))).map
      (fun st => (peekVal st 1, st.pos, st.pending)) = some (none, 0, []) := by decide

/-- boundary of the TTL comparison: at `t = expires` nothing is asked again -/
example :
    (run c12ExCfg init ([.submit 1, .batch [1] (fun _ => some 7) false, .handleInfo 0, .deliver 0, .tick 2] : List (Action Nat Nat))).map
      (fun st => st.pending) = some [] := by decide

/-- the hypotheses of `C12_sticky_positive` on a concrete state and schedule -/
example :
    ∃ st : State Nat Nat,
      run c12ExCfg init [.submit 1, .batch [1] (fun _ => some 7) false, .handleInfo 0, .deliver 0] = some st ∧
      NodupKeys st.cache ∧ peekVal st 1 = some (some 7) ∧ (∀ i ∈ st.answers, i.ip = 1 → i.inst = none) ∧
      keptAlong c12ExCfg 1 st [.tick 3, .batch [1] (fun _ => none) true, .handleInfo 3] = true ∧
      (run c12ExCfg st [.tick 3, .batch [1] (fun _ => none) true, .handleInfo 3]).map (fun s => peekVal s 1) = some (some (some 7)) := by
  refine ⟨_, rfl, by decide, by decide, by decide, by decide, by decide⟩

/-- a refresh in flight across an eviction (`tick 2` queues the refresh of source 1, the batch is only
answered after `tick 3` has idle-evicted the entry): the late answer re-inserts the entry, and once it is
past its TTL again (`tick 5`) it is queued again — `C12_requery_expired` does not care what was outstanding
before. -/
example :
    (run { ttl := 1, negTtl := 1, idle := 2, maxBatch := 1 } init
      ([.submit 1, .batch [1] (fun _ => some 7) false, .handleInfo 0, .deliver 0,
        .tick 2, .tick 3, .batch [1] (fun _ => some 8) false, .handleInfo 3, .deliver 0,
        .peek 1 3, .tick 5] : List (Action Nat Nat))).map
      (fun st => (peekVal st 1, st.pending, st.queried, st.pos)) = some (some (some 8), [1], [1, 1], 1) := by decide

/-- a quiescent reachable state (hypotheses of `C12_every_submission_queried`) -/
example : Quiescent c12ExCfg (init : State Nat Nat) := by
  intro a ha
  cases a with
  | batch ss o e => cases ss <;> simp [step, init, takeOut]
  | handleInfo | deliver => simp [step, init, extract]
  | submit | peek | tick => cases ha

end examples

end Gsd

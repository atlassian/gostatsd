import Gsd.Proofs.Lemmas.PipelineKeys
import Mathlib.Algebra.Order.Group.Multiset
/-!
# C01 — every datapoint lands in exactly one flush

`Pipeline.step` is the transition system of parser → split/dispatch → worker queues → aggregates →
flush views.  The theorems hold for **every** action list (every interleaving of arrivals, queue
sends, queue receives and per-shard flushes), every shard count `n ≥ 1`, every routing function and
every expiry decision at every flush.  Arithmetic is exact (`α` an additive commutative monoid).
-/
namespace Gsd
open AList
variable {α : Type} [AddCommMonoid α]

namespace Pipeline

theorem ledger_step {M} (ms : Measure α M) (ops : NumOps α) (h : Key → Nat) (n : Nat) (hn : 0 < n)
    (s s' : State α) (hinv : Inv n s) (hs : Step ops h n s s')
    (hl : total ms s = ms.C.fold (s.arrived.map ms.μ)) :
    total ms s' = ms.C.fold (s'.arrived.map ms.μ) := by
  obtain ⟨-, h2, h3, -⟩ := hinv
  have : Std.Associative ms.C.op := ⟨ms.C.assoc⟩
  have : Std.Commutative ms.C.op := ⟨ms.C.comm⟩
  cases hs with
  | arrive ds =>
    have hwf : (MM.receiveAll ops MM.empty ds).WF := receiveAll_wf ops _ ds empty_wf
    simp only [total, List.map_append, CMon.fold_append, ms.split h n _ hn hwf, List.map_cons, List.map_nil,
      CMon.fold_singleton] at hl ⊢
    rw [← hl]
    ac_rfl
  | enqueue j i p hj hi =>
    have e1 := ms.C.fold_map_eraseIdx (fun p => ms.μ p.2) s.pending j (i, p) hj
    have e2 := ms.C.fold_modify (fun q => ms.C.fold (q.map ms.μ)) s.queues i (· ++ [p]) (ms.μ p) hi
      (by intro q; simp [CMon.fold_append, ms.C.id_right])
    simp only [total] at hl ⊢
    rw [← hl, e1, e2]
    ac_rfl
  | deliver i p rest hq hi =>
    have hp : p.WF := h2 _ (List.mem_of_getElem? hq) p List.mem_cons_self
    have e1 := ms.C.fold_set (fun q => ms.C.fold (q.map ms.μ)) s.queues i rest (ms.μ p) (p :: rest) hq
      (by simp; rw [ms.C.comm])
    have e2 := ms.C.fold_modify ms.μ s.aggs i (fun a => MM.merge a p) (ms.μ p) hi (fun a => ms.merge a p hp)
    simp only [total] at hl ⊢
    rw [← hl, e1, e2]
    ac_rfl
  | flush i ex a ha =>
    have e1 := ms.C.fold_set ms.μ s.aggs i (reset ex a) (ms.μ a) a ha
      (by rw [ms.reset ex a (h3 a (List.mem_of_getElem? ha)), ms.C.id_left])
    simp only [total, List.map_append, CMon.fold_append, List.map_cons, List.map_nil, CMon.fold_singleton] at hl ⊢
    rw [← hl, e1]
    ac_rfl

end Pipeline

open Pipeline

/-- **C01_ledger.**  For every additive measure (counter total of a series, multiset of a timer's values,
a timer's sampled count, membership of a value in a set), every shard count `n ≥ 1`, routing function,
expiry decisions and every interleaving `as`: what has been flushed plus what sits in aggregates,
queues and half-dispatched batches equals what arrived.  Nothing is lost, nothing is duplicated. -/
theorem C01_ledger {M} (ms : Measure α M) (ops : NumOps α) (h : Key → Nat) (n : Nat) (hn : 0 < n) (as : List (Action α)) :
    total ms (run ops h n (init n) as) = ms.C.fold ((run ops h n (init n) as).arrived.map ms.μ) := by
  have h0 : total ms (init n : State α) = ms.C.fold ((init n : State α).arrived.map ms.μ) := by
    have hr : ∀ k, ms.C.fold (List.replicate k ms.C.e) = ms.C.e := fun k =>
      ms.C.fold_eq_e _ fun x hx => (List.mem_replicate.mp hx).2
    simp [total, init, ms.empty, hr, ms.C.id_left]
  exact (run_induction (P := fun s => Inv n s ∧ total ms s = ms.C.fold (s.arrived.map ms.μ))
    (fun s s' hs hst => ⟨inv_step ops h n s s' hs.1 hst, ledger_step ms ops h n hn s s' hs.1 hst hs.2⟩)
    as _ ⟨inv_init n, h0⟩).2

/-- **C01_quiescent.**  When nothing is in flight (no half-dispatched batch, empty queues) and every shard
has been flushed since its last merge (so the aggregates measure nothing), the flushes together
measure exactly what arrived. -/
theorem C01_quiescent {M} (ms : Measure α M) (ops : NumOps α) (h : Key → Nat) (n : Nat) (hn : 0 < n) (as : List (Action α))
    (hp : (run ops h n (init n) as).pending = [])
    (hq : ∀ q ∈ (run ops h n (init n) as).queues, q = [])
    (ha : ∀ a ∈ (run ops h n (init n) as).aggs, ms.μ a = ms.C.e) :
    ms.C.fold ((run ops h n (init n) as).flushed.map (fun p => ms.μ p.2)) =
    ms.C.fold ((run ops h n (init n) as).arrived.map ms.μ) := by
  have hl := C01_ledger ms ops h n hn as
  generalize run ops h n (init n) as = s at *
  have e1 : ms.C.fold (s.aggs.map ms.μ) = ms.C.e := ms.C.fold_eq_e _ (List.forall_mem_map.mpr ha)
  have e2 : ms.C.fold (s.queues.map (fun q => ms.C.fold (q.map ms.μ))) = ms.C.e :=
    ms.C.fold_eq_e _ (List.forall_mem_map.mpr fun q hq' => by rw [hq q hq']; rfl)
  simp only [total, hp, e1, e2, List.map_nil, CMon.fold_nil] at hl
  rw [← hl, ms.C.id_right, ms.C.id_left, ms.C.id_right]

def monAdd (β : Type) [AddCommMonoid β] : CMon β := ⟨(· + ·), 0, add_assoc, add_comm, zero_add⟩
def boolOr : CMon Bool := ⟨(· || ·), false, Bool.or_assoc, Bool.or_comm, Bool.false_or⟩

def counterAt (k : Key) : Measure α Int :=
  Field.counters.measure (monAdd _) (·.value) (fun _ _ => rfl) (fun _ => rfl) k

def timerValuesAt (k : Key) : Measure α (Multiset α) :=
  Field.timers.measure (monAdd _) (fun t => (t.values : Multiset α)) (fun _ _ => (Multiset.coe_add _ _).symm) (fun _ => rfl) k

def timerSampledAt (k : Key) : Measure α α :=
  Field.timers.measure (monAdd _) (·.sampled) (fun _ _ => rfl) (fun _ => rfl) k

def setMemberAt (k : Key) (x : String) : Measure α Bool :=
  Field.sets.measure boolOr (fun s => decide (x ∈ s.members))
    (fun a b => by simp [Field.sets, mergeSet, mem_setUnion, boolOr]) (fun _ => by simp [Field.sets, boolOr]) k

/-- **C01_counter_total.**  At quiescence the counts reported for counter series `k` over all flushes of all
shards add up to the counts of `k` in the parsed batches (each being Σ trunc(value/rate), C07). -/
theorem C01_counter_total (k : Key) (ops : NumOps α) (h : Key → Nat) (n : Nat) (hn : 0 < n) (as : List (Action α))
    (hp : (run ops h n (init n) as).pending = []) (hq : ∀ q ∈ (run ops h n (init n) as).queues, q = [])
    (ha : ∀ a ∈ (run ops h n (init n) as).aggs, ((lookup k a.counters).map (·.value)).getD 0 = 0) :
    (((run ops h n (init n) as).flushed.map (fun p => ((lookup k p.2.counters).map (·.value)).getD 0)).foldr (· + ·) 0 : Int) =
    ((run ops h n (init n) as).arrived.map (fun m => ((lookup k m.counters).map (·.value)).getD 0)).foldr (· + ·) 0 :=
  C01_quiescent (counterAt (α := α) k) ops h n hn as hp hq ha

/-- **C01_timer_values.**  Likewise the values reported for timer `k` form exactly the multiset received. -/
theorem C01_timer_values (k : Key) (ops : NumOps α) (h : Key → Nat) (n : Nat) (hn : 0 < n) (as : List (Action α))
    (hp : (run ops h n (init n) as).pending = []) (hq : ∀ q ∈ (run ops h n (init n) as).queues, q = [])
    (ha : ∀ a ∈ (run ops h n (init n) as).aggs, ((lookup k a.timers).map (fun t => (t.values : Multiset α))).getD 0 = 0) :
    ((run ops h n (init n) as).flushed.map (fun p => ((lookup k p.2.timers).map (fun t => (t.values : Multiset α))).getD 0)).foldr (· + ·) 0 =
    ((run ops h n (init n) as).arrived.map (fun m => ((lookup k m.timers).map (fun t => (t.values : Multiset α))).getD 0)).foldr (· + ·) 0 :=
  C01_quiescent (timerValuesAt (α := α) k) ops h n hn as hp hq ha

/-- **C01_timer_sampled.**  …and the sampled counts add up to the Σ 1/rate received. -/
theorem C01_timer_sampled (k : Key) (ops : NumOps α) (h : Key → Nat) (n : Nat) (hn : 0 < n) (as : List (Action α))
    (hp : (run ops h n (init n) as).pending = []) (hq : ∀ q ∈ (run ops h n (init n) as).queues, q = [])
    (ha : ∀ a ∈ (run ops h n (init n) as).aggs, ((lookup k a.timers).map (·.sampled)).getD 0 = 0) :
    ((run ops h n (init n) as).flushed.map (fun p => ((lookup k p.2.timers).map (·.sampled)).getD 0)).foldr (· + ·) 0 =
    ((run ops h n (init n) as).arrived.map (fun m => ((lookup k m.timers).map (·.sampled)).getD 0)).foldr (· + ·) 0 :=
  C01_quiescent (timerSampledAt (α := α) k) ops h n hn as hp hq ha

/-- **C01_set_members.**  A value is reported as a member of set `k` in some flush iff it was received. -/
theorem C01_set_members (k : Key) (x : String) (ops : NumOps α) (h : Key → Nat) (n : Nat) (hn : 0 < n) (as : List (Action α))
    (hp : (run ops h n (init n) as).pending = []) (hq : ∀ q ∈ (run ops h n (init n) as).queues, q = [])
    (ha : ∀ a ∈ (run ops h n (init n) as).aggs, ((lookup k a.sets).map (fun s => decide (x ∈ s.members))).getD false = false) :
    ((run ops h n (init n) as).flushed.map (fun p => ((lookup k p.2.sets).map (fun s => decide (x ∈ s.members))).getD false)).foldr (· || ·) false =
    ((run ops h n (init n) as).arrived.map (fun m => ((lookup k m.sets).map (fun s => decide (x ∈ s.members))).getD false)).foldr (· || ·) false :=
  C01_quiescent (setMemberAt (α := α) k x) ops h n hn as hp hq ha

/-- **C01_no_phantom.**  Whatever the interleaving, a series that appears in any flush view was contained in
some parsed batch (persisted series included): nothing is reported for a series that was never sent. -/
theorem C01_no_phantom (ops : NumOps α) (h : Key → Nat) (n : Nat) (as : List (Action α))
    (p : Nat × MM α) (hp : p ∈ (run ops h n (init n) as).flushed) (t : MType) (k : Key) (hk : present p.2 t k) :
    ∃ m ∈ (run ops h n (init n) as).arrived, present m t k :=
  ((kinv_run ops h n as).2.2.2 p hp t k hk).2

/-- **C01_shard_local.**  A series is only ever reported by the shard its identity routes to (`h k % n`).  A view
holds each series at most once (it is a map: `C01_view_wf`), so no series is reported twice within one flush of
all shards. -/
theorem C01_shard_local (ops : NumOps α) (h : Key → Nat) (n : Nat) (as : List (Action α))
    (p : Nat × MM α) (hp : p ∈ (run ops h n (init n) as).flushed) (t : MType) (k : Key) (hk : present p.2 t k) :
    h k % n = p.1 :=
  ((kinv_run ops h n as).2.2.2 p hp t k hk).1

/-- **C01_view_wf.**  Every view handed to the backends is a map: no series occurs twice in it. -/
theorem C01_view_wf (ops : NumOps α) (h : Key → Nat) (n : Nat) (as : List (Action α)) :
    ∀ p ∈ (run ops h n (init n) as).flushed, p.2.WF :=
  (run_induction (inv_step ops h n) as _ (inv_init n)).2.2.2.1

/-- non-vacuity: a concrete two-shard schedule in which a flush falls between the two pieces of one batch -/
example :
    let ops : NumOps Int := { toCount := fun v _ => v, invRate := fun _ => 1 }
    let d1 : Dp Int := { name := "a", tagsKey := "", ty := .counter, value := 3, rate := 1, sval := "", ts := 1, src := "", tags := [] }
    let d2 : Dp Int := { name := "bb", tagsKey := "", ty := .counter, value := 4, rate := 1, sval := "", ts := 1, src := "", tags := [] }
    let s := run ops (fun k => k.1.length) 2 (init 2)
      [.arrive [d1, d2], .enqueue 0, .deliver 0, .flushShard 0 (fun _ => false), .flushShard 1 (fun _ => false),
       .enqueue 0, .deliver 1, .flushShard 0 (fun _ => false), .flushShard 1 (fun _ => false)]
    s.pending = [] ∧ s.flushed.map (fun p => (p.1, p.2.counters.map (fun e => (e.1.1, e.2.value)))) =
      [(0, [("bb", 4)]), (1, []), (0, [("bb", 0)]), (1, [("a", 3)])] := by
  decide

end Gsd

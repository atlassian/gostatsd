import Gsd.Proofs.Lemmas.Datagram
/-!
# C05 — lines of a datagram are independent; last gauge wins

Two models of `handleDatagram` are related:
* `handleBuf` — the **array-level** one: the datagram buffer is threaded through, each line is lexed from
  the buffer as the earlier lines have left it (`lexKeySep` rewrites and deletes bytes in place), the next
  `\n` is searched in that same buffer;
* `handle` — the **list-level** one: split the original message into lines, lex each line alone.

`C05_concat` says they give the same items in the same order, for every message, every content of the
rest of the (pooled, 64 KiB) buffer, every capacity, namespace, ignore-host setting, `ParseFloat`.
What a pure model cannot express — that the *strings* of a metric do not alias the buffer — is checked
at run time only (harness: scribble `0xAA` over the buffer after parsing, force GC, re-read the result).
-/
namespace Gsd
open Lexer Datagram

/-- **C05_frame.**  Lexing the window `[lo, hi)` of a buffer (the in-place normalisation of `lexKeySep`:
`input[pos-1] = c` and `append(input[0:pos-1], input[pos:]...)`) changes no byte outside `[lo, hi)` and
keeps the buffer's length: a line never shifts bytes into, or out of, its neighbours. -/
theorem C05_frame (buf : Bytes) (lo hi : Nat) (h : hi ≤ buf.length) :
    (lexWindowBuf buf lo hi).length = buf.length ∧
    ∀ k, (k < lo ∨ hi ≤ k) → (lexWindowBuf buf lo hi)[k]? = buf[k]? := by
  by_cases hlo : lo ≤ hi
  · -- the buffer as `A ++ W ++ P` with `W` the window
    obtain ⟨A, W, P, rfl, rfl, rfl⟩ : ∃ A W P, buf = A ++ (W ++ P) ∧ A.length = lo ∧ A.length + W.length = hi :=
      ⟨buf.take lo, (buf.drop lo).take (hi - lo), (buf.drop lo).drop (hi - lo), by rw [List.take_append_drop, List.take_append_drop],
        List.length_take_of_le (by omega),
        by rw [List.length_take_of_le (by omega), List.length_take_of_le (by rw [List.length_drop]; omega)]; omega⟩
    obtain ⟨Y, hY, e⟩ := lexWindowBuf_append A W P
    rw [e]
    exact splice_frame A W Y P hY
  · have e : lexWindowBuf buf lo hi = buf := by
      unfold lexWindowBuf
      split
      · rfl
      · rw [if_pos (.inl (by omega))]
    rw [e]
    exact ⟨rfl, fun _ _ => rfl⟩

section
variable {F : Type} [FloatLike F]

/-- **C05_concat.**  Parsing a datagram in its (mutable, shared) buffer gives exactly the concatenation of
parsing each of its newline-separated lines alone: same items, same order, whatever the neighbouring lines
contain (valid, invalid, needing in-place normalisation, empty) and whatever follows the message in the
buffer; the bad-line count is the number of lines that are rejected on their own. -/
theorem C05_concat (cfg : Cfg) (pf : Bytes → Option F) (c : Config) (bufCap : Nat) (msg rest : Bytes) (fuel : Nat)
    (hf : msg.length < fuel) :
    (handleBuf cfg pf c bufCap msg.length fuel (msg ++ rest) 0).1 = handle cfg pf c bufCap msg ∧
    handle cfg pf c bufCap msg = (withCaps bufCap 0 (splitLines msg)).map (fun lc => lexAlone cfg pf c lc.1 lc.2) ∧
    badCount (handle cfg pf c bufCap msg) =
      ((withCaps bufCap 0 (splitLines msg)).filter (fun lc => match lexAlone cfg pf c lc.1 lc.2 with | .bad _ => true | _ => false)).length := by
  refine ⟨?_, rfl, ?_⟩
  · exact handleBuf_eq cfg pf c bufCap fuel [] msg rest msg.length (Nat.zero_add _).symm hf
  · simp only [badCount, handle, List.filter_map, List.length_map]
    rfl

/-- **C05_trailing_newline.**  A final newline changes nothing: `msg` and `msg ++ "\n"` give the same
items (for a non-empty `msg` that does not already end in a newline — one more `\n` after a newline *is*
one more, empty, line, and an empty line is a bad line: `C05_empty_line_is_bad`). -/
theorem C05_trailing_newline (cfg : Cfg) (pf : Bytes → Option F) (c : Config) (bufCap : Nat) (msg : Bytes)
    (hne : msg ≠ []) (hlast : msg.getLast? ≠ some 10) :
    handle cfg pf c bufCap (msg ++ [10]) = handle cfg pf c bufCap msg := by
  simp only [handle, splitLines]
  rw [splitLinesAux_trailing msg [] (Or.inr hne) hlast]

/-- **C05_empty_line_is_bad.**  An empty line (two consecutive newlines, or a leading newline) is a line,
and it is counted as a bad line (`lexSpecial` on empty input: `errInvalidType`). -/
theorem C05_empty_line_is_bad (cfg : Cfg) (pf : Bytes → Option F) (c : Config) (cap : Nat) :
    lexAlone cfg pf c [] cap = .bad .type ∧ splitLines [10] = [[]] ∧ splitLines [97, 10, 10, 98] = [[97], [], [98]] ∧
    splitLines [] = [] ∧ splitLines [97, 10] = [[97]] :=
  ⟨by simp [lexAlone, run, itemOf], by decide⟩

set_option linter.unusedSectionVars false -- the statement of `C05_source_time` carries `[FloatLike F]` and does not use it
/-- **C05_source_time.**  Every metric of a datagram carries the datagram's receive time; its source is the
sender address, or — with ignore-host — the value of its first `host:` tag, which is removed from the tags
(the others keep their order), and the empty string when there is none.  Events always carry the sender
address. -/
theorem C05_source_time (c : Config) (m : Metric F) (e : Event) :
    (placeMetric c m).ts = c.now ∧
    (c.ignoreHost = false → (placeMetric c m).source = c.ip ∧ (placeMetric c m).m = m) ∧
    (c.ignoreHost = true → (∀ t ∈ m.tags, isHostTag t = false) →
        (placeMetric c m).source = [] ∧ (placeMetric c m).m = m) ∧
    (c.ignoreHost = true → ∀ pre t post, m.tags = pre ++ t :: post → (∀ x ∈ pre, isHostTag x = false) → isHostTag t = true →
        (placeMetric c m).source = t.drop 5 ∧ (placeMetric c m).m = { m with tags := pre ++ post }) ∧
    (itemOf c (Outcome.event e : Outcome F) = .event { e with host := c.ip }) := by
  refine ⟨?_, ?_, ?_, ?_, rfl⟩
  · unfold placeMetric; split <;> rfl
  · intro h; simp [placeMetric, h]
  · intro h hno
    simp only [placeMetric, h, if_true, stripHost_none m.tags hno, and_self]
  · intro h pre t post htags hpre ht
    simp only [placeMetric, h, if_true, htags, stripHost_first pre t post hpre ht, and_self]

/-- every metric item of a datagram has the datagram's time, and (without ignore-host) the sender as source -/
theorem C05_source_time_all (cfg : Cfg) (pf : Bytes → Option F) (c : Config) (bufCap : Nat) (msg : Bytes) :
    ∀ d ∈ metricsOf (handle cfg pf c bufCap msg), d.ts = c.now ∧ (c.ignoreHost = false → d.source = c.ip) := by
  intro d hd
  simp only [metricsOf, handle, List.mem_filterMap, List.mem_map] at hd
  obtain ⟨i, ⟨lc, _, rfl⟩, hi⟩ := hd
  simp only [lexAlone] at hi
  cases hr : run cfg pf c.ns lc.2 lc.1 with
  | metric m =>
    rw [hr] at hi
    simp only [itemOf, Option.some.injEq] at hi
    subst hi
    exact ⟨(C05_source_time c m {}).1, fun h => ((C05_source_time c m {}).2.1 h).1⟩
  | event _ | reject _ | panic => rw [hr] at hi; simp [itemOf] at hi

end

/-- **C05_name_readback.**  The array-level and the list-level model agree on what the lexer reads after
`lexKeySep`: in the rewritten buffer the line's window begins with the normalised name, the `:` and the
untouched rest of the line (then `|name| − |norm name|` stale bytes up to the old end of the line); bytes
before and after the window are as they were. -/
theorem C05_name_readback (pre nm rest post : Bytes) (h0 : (0 : UInt8) ∉ nm) (h58 : (58 : UInt8) ∉ nm)
    (hh : nm.head? ≠ some 95) :
    ∃ stale : Bytes, stale.length = nm.length - (norm nm).length ∧
      lexWindowBuf (pre ++ (nm ++ 58 :: (rest ++ post))) pre.length (pre.length + (nm.length + 1 + rest.length)) =
        pre ++ (norm nm ++ 58 :: (rest ++ (stale ++ post))) := by
  obtain ⟨stale, hl, e⟩ := keySepL_name rest nm h0 h58
  refine ⟨stale, hl, ?_⟩
  obtain ⟨b, hb, h95, hb0⟩ : ∃ b, (nm ++ 58 :: rest).head? = some b ∧ b ≠ 95 ∧ b ≠ 0 := by
    cases nm with
    | nil => exact ⟨58, rfl, by decide, by decide⟩
    | cons b t => exact ⟨b, rfl, fun e => hh (by simp [e]), fun e => h0 (by simp [e])⟩
  have := lexWindowBuf_eq pre (nm ++ 58 :: rest) post hb h95 hb0
  simpa only [e, List.append_assoc, List.cons_append, List.length_append, List.length_cons, Nat.add_assoc, Nat.add_comm 1] using this

/-- **C05_last_gauge_wins** (repaired code, `>=` in `receiveGauge`).  All lines of a datagram share one
timestamp; folding its gauge datapoints into a map with the repaired comparison leaves every series with
the value of its **last** line. -/
theorem C05_last_gauge_wins {κ V : Type} [DecidableEq κ] (now : Int) (dps : List (κ × Int × V))
    (hts : ∀ d ∈ dps, d.2.1 = now) (k : κ) :
    AList.lookup k (gaugeFold true dps) = (lastFor k dps).map (fun v => (now, v)) := by
  unfold gaugeFold
  rw [gaugeFold_aux now k dps [] (by simp) hts]
  cases lastFor k dps <;> simp

/-- **C05_first_gauge_wins_on_pinned_tree** (negative witness, D3).  With the code's `>` the datagram
`g:1|g\ng:2|g` (one timestamp) records 1, not 2; the repaired comparison records 2. -/
theorem C05_first_gauge_wins_on_pinned_tree :
    AList.lookup "g" (gaugeFold false [("g", (1000 : Int), (1 : Nat)), ("g", 1000, 2)]) = some (1000, 1) ∧
    AList.lookup "g" (gaugeFold true [("g", (1000 : Int), (1 : Nat)), ("g", 1000, 2)]) = some (1000, 2) := by
  decide

/-- non-vacuity of `C05_last_gauge_wins`: three lines, two series -/
example : lastFor "g" [("g", (7 : Int), (1 : Nat)), ("h", 7, 5), ("g", 7, 2)] = some 2 ∧
    lastFor "h" [("g", (7 : Int), (1 : Nat)), ("h", 7, 5), ("g", 7, 2)] = some 5 := by decide

/-- non-vacuity of `C05_concat` / `C05_frame`: in the buffer `"$a$:1|c\n$b:2|c"` lexing the first line
rewrites bytes 0–6 only (the name `a`, the rest shifted left, the stale tail kept); the second line is untouched -/
example : lexWindowBuf [36, 97, 36, 58, 49, 124, 99, 10, 36, 98, 58, 50, 124, 99] 0 7 =
    [97, 58, 49, 124, 99, 99, 99, 10, 36, 98, 58, 50, 124, 99] := by decide

end Gsd

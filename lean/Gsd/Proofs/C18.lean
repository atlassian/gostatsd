import Gsd.Proofs.Lemmas.Ticker
/-!
# C18 — aligned flushing happens exactly on interval boundaries

Times are `Int` nanoseconds since Go's zero time, `I > 0` is the flush interval,
`off` **any** integer offset (also `≥ I`, also negative), `now` any start instant.  `acts` ranges over
**all** interleavings of "the underlying timer delivered time τ and `sendTick τ` ran" and "the consumer
received from the channel" (`runActs`), i.e. over every advancement pattern and every slow consumer.
The only hypothesis is about the delivered times themselves (`SlotsIncreasing`: every delivered time
falls into a later interval slot than the previous one); `C18_slots_of_gaps`, `C18_slots_of_lateness`
and `C18_mock_semantics` discharge it for an ideal ticker, a late real ticker and the mock clock.
Outside the theorems: a real ticker that is late by a whole interval or more (two delivered times in one
slot give two equal values, hence a zero `flushDelta`).
-/
namespace Gsd
open Gsd.Ticker

/-- **C18_trunc.**  `trunc` (the model of `time.Time.Truncate`) is the floor to a multiple of `I`. -/
theorem C18_trunc {I : Int} (hI : 0 < I) (t : Int) :
    trunc t I ≤ t ∧ t < trunc t I + I ∧ trunc t I % I = 0 :=
  ⟨(trunc_bounds hI t).1, (trunc_bounds hI t).2, trunc_emod hI t⟩

example : trunc (-7) 5 = -10 ∧ trunc 7 5 = 5 ∧ trunc 10 5 = 10 := by decide

/-- **C18_aligned.**  Whatever time the underlying timer delivers, the value put on the channel minus
the offset is an exact multiple of the interval; hence so is every value a consumer ever receives, the
first one and every later one, for all offsets. -/
theorem C18_aligned {I : Int} (hI : 0 < I) (off : Int) :
    (∀ τ, (tickValue τ off I - off) % I = 0) ∧
    ∀ acts : List Act, ∀ v ∈ (runActs off I acts).recvd, (v - off) % I = 0 := by
  refine ⟨fun τ => tickValue_aligned hI τ off, ?_⟩
  intro acts v hv
  have := (recvd_sublist off I acts).subset hv
  obtain ⟨τ, _, rfl⟩ := List.mem_map.1 this
  exact tickValue_aligned hI τ off

example : (tickValue 1234 25 10 - 25) % 10 = 0 ∧ tickValue 1234 25 10 = 1225 ∧ tickValue (-4) 7 5 = -8 := by decide

/-- **C18_first_bound.**  The first tick `F = now + initialWait` comes strictly after start-up and at
most one interval later, lies on a boundary, and is the value sent when the timer fires less than one
interval late. -/
theorem C18_first_bound {I : Int} (hI : 0 < I) (now off : Int) :
    let F := now + initialWait now off I
    0 < F - now ∧ F - now ≤ I ∧ (F - off) % I = 0 ∧
    ∀ late, 0 ≤ late → late < I → tickValue (F + late) off I = F := by
  have hb := initialWait_bounds hI now off
  refine ⟨by omega, by omega, ?_, fun late h0 h1 => ?_⟩
  · rw [first_deadline_eq hI, Int.add_sub_cancel]; exact Int.mul_emod_right _ _
  · rw [first_deadline_eq hI]; exact tickValue_of_boundary hI off _ late h0 h1

example : initialWait 1003 25 10 = 2 ∧ initialWait 1005 25 10 = 10 ∧ initialWait 1005 5 10 = 10 ∧
    initialWait 3 0 1 = 1 ∧ initialWait (-12) 1 5 = 3 := by decide

/-- **C18_dropped_only_removes.**  The values received, followed by the one still in the channel, are a
sub-sequence of the values computed for the delivered times: a full channel drops ticks, it never
reorders, duplicates or invents them. -/
theorem C18_dropped_only_removes (off I : Int) (acts : List Act) :
    ((runActs off I acts).recvd ++ (runActs off I acts).chan.toList).Sublist
      ((ticksOf acts).map (fun τ => tickValue τ off I)) :=
  delivered_sublist off I acts

/-- **C18_monotone.**  If every delivered time falls into a later slot than the previous one, the
received flush times strictly increase — for every interleaving with a slow consumer. -/
theorem C18_monotone {I : Int} (hI : 0 < I) (off : Int) (acts : List Act)
    (h : SlotsIncreasing off I (ticksOf acts)) :
    List.Pairwise (· < ·) (runActs off I acts).recvd := by
  have hp := (pairwise_tickValues_of_slots hI off _ h).sublist (recvd_sublist off I acts)
  exact hp.imp (fun hab => posMultiple_lt hI hab)

/-- **C18_delta_multiple.**  Under the same hypothesis every `flushDelta` after the first (the
difference of consecutive received values) is a positive multiple of the interval. -/
theorem C18_delta_multiple {I : Int} (hI : 0 < I) (off : Int) (acts : List Act)
    (h : SlotsIncreasing off I (ticksOf acts)) :
    ∀ d ∈ deltas (runActs off I acts).recvd, ∃ n : Int, 0 < n ∧ d = n * I :=
  deltas_posMultiple _ ((pairwise_tickValues_of_slots hI off _ h).sublist (recvd_sublist off I acts))

example :
    let acts := [Act.tick 1005, .tick 1015, .recv, .tick 1047, .tick 1055, .recv, .recv, .tick 1065, .recv]
    SlotsIncreasing 25 10 (ticksOf acts) ∧ (runActs 25 10 acts).recvd = [1005, 1045, 1065] ∧
    deltas (runActs 25 10 acts).recvd = [40, 20] := by decide

/-- **C18_slots_of_gaps.**  Delivered times at least one interval apart fall into increasing slots. -/
theorem C18_slots_of_gaps {I : Int} (hI : 0 < I) (off : Int) (τs : List Int) (h : GapsOk I τs) :
    SlotsIncreasing off I τs :=
  h.imp (fun hab => slot_lt_of_gap hI off _ _ hab)

/-- **C18_slots_of_lateness.**  A real ticker: the `k`-th delivered time is `B + mₖ·I + lagₖ` with `B` a
boundary, `mₖ` strictly increasing and start-up lag plus lateness `0 ≤ lagₖ < I`.  Then the slots
increase (and the value sent is exactly `B + mₖ·I`). -/
theorem C18_slots_of_lateness {I : Int} (hI : 0 < I) (off q : Int) (ps : List (Int × Int))
    (hlag : ∀ p ∈ ps, 0 ≤ p.2 ∧ p.2 < I) (hm : List.Pairwise (fun a b => a.1 < b.1) ps) :
    SlotsIncreasing off I (ps.map (fun p => I * q + off + p.1 * I + p.2)) ∧
    ∀ p ∈ ps, tickValue (I * q + off + p.1 * I + p.2) off I = I * q + off + p.1 * I := by
  have key : ∀ m : Int, I * q + off + m * I = I * (q + m) + off := fun m => by
    rw [Int.mul_add, Int.mul_comm I m, Int.add_right_comm (I * q) off]
  constructor
  · unfold SlotsIncreasing
    rw [List.pairwise_map]
    refine List.Pairwise.imp_of_mem (fun {a b} ha hb hab => ?_) hm
    rw [key a.1, key b.1, slot_of_boundary hI off _ _ (hlag a ha).1 (hlag a ha).2,
      slot_of_boundary hI off _ _ (hlag b hb).1 (hlag b hb).2]
    exact Int.add_lt_add_left hab q
  · intro p hp
    rw [key p.1, tickValue_of_boundary hI off _ _ (hlag p hp).1 (hlag p hp).2]

example : (∀ p ∈ [((0 : Int), (3 : Int)), (1, 9), (4, 0)], 0 ≤ p.2 ∧ p.2 < 10) ∧
    List.Pairwise (fun a b => a.1 < b.1) [((0 : Int), (3 : Int)), (1, 9), (4, 0)] ∧
    SlotsIncreasing 25 10 ([((0 : Int), (3 : Int)), (1, 9), (4, 0)].map (fun p => 10 * 100 + 25 + p.1 * 10 + p.2)) := by
  decide

/-- **C18_mock_semantics.**  The mock clock's rule (`Mock.set`: a timer fires at its deadline; a ticker
fires at most once per call, at its deadline, and is re-armed to the first multiple of its period after
the new time) together with `start` discharges the hypothesis: for every script that only moves the
clock forward, in ticker and in flusher mode, the delivered times start at `now + initialWait`, are at
least one interval apart, the channel state is the one of `runActs` on the logged actions, and no
received value lies in the future of the clock reading at its receipt. -/
theorem C18_mock_semantics {I : Int} (hI : 0 < I) (now off : Int) (flusher : Bool) (script : List SOp)
    (hs : ScriptOk script) :
    let s := Sim.run now off I flusher script
    s.ch = runActs off I s.log ∧ GapsOk I (ticksOf s.log) ∧
    ((ticksOf s.log).head? = none ∨ (ticksOf s.log).head? = some (now + initialWait now off I)) ∧
    List.Forall₂ (fun v c => v ≤ c) s.ch.recvd s.clocks := by
  have h := simInv_run hI now off flusher script hs
  rcases h.phase with ⟨_, _, h3⟩ | ⟨_, Dk, _, hh, hpw, _⟩
  · exact ⟨h.ch_eq, by unfold GapsOk; rw [h3]; exact .nil, .inl (by rw [h3]; rfl), h.recvd_le⟩
  · exact ⟨h.ch_eq, hpw, .inr hh, h.recvd_le⟩

/-- **C18_script.**  What the driver prints for a script therefore satisfies the whole property: every
received flush time is aligned, they strictly increase, the first one is `now + initialWait`
(`0 < F − now ≤ I`), every later `flushDelta` is a positive multiple of the interval, and each value is
at or before the clock reading at its receipt. -/
theorem C18_script {I : Int} (hI : 0 < I) (now off : Int) (flusher : Bool) (script : List SOp)
    (hs : ScriptOk script) :
    let s := Sim.run now off I flusher script
    (∀ v ∈ s.ch.recvd, (v - off) % I = 0) ∧
    List.Pairwise (· < ·) s.ch.recvd ∧
    (∀ F, s.ch.recvd.head? = some F → F = now + initialWait now off I ∧ 0 < F - now ∧ F - now ≤ I) ∧
    (∀ d ∈ deltas s.ch.recvd, ∃ n : Int, 0 < n ∧ d = n * I) ∧
    List.Forall₂ (fun v c => v ≤ c) s.ch.recvd s.clocks := by
  obtain ⟨h1, h2, h3, h4⟩ := C18_mock_semantics hI now off flusher script hs
  have hslots := C18_slots_of_gaps hI off _ h2
  intro s
  have e : s.ch = runActs off I s.log := h1
  refine ⟨?_, ?_, ?_, ?_, h4⟩
  · rw [e]; exact (C18_aligned hI off).2 _
  · rw [e]; exact C18_monotone hI off _ hslots
  · intro F hF
    obtain ⟨hpos, hle, _, hfix⟩ := C18_first_bound hI now off
    rcases h3 with h3 | h3
    · rw [e, runActs_no_ticks off I _ (List.head?_eq_none_iff.1 h3)] at hF; cases hF
    · have hh := delivered_head off I _ _ h3
      rw [← e, List.head?_append, hF] at hh
      have h0 := hfix 0 (Int.le_refl 0) hI
      rw [Int.add_zero, ← Option.some.inj hh] at h0
      exact ⟨h0, h0 ▸ hpos, h0 ▸ hle⟩
  · rw [e]; exact C18_delta_multiple hI off _ hslots

example :
    let script := [SOp.next, .recv, .add 35, .add 1, .recv, .recv, .add 100, .next, .recv]
    ScriptOk script ∧ (Sim.run 1003 25 10 false script).ch.recvd = [1005, 1015, 1045] ∧
    (Sim.run 1003 25 10 false script).clocks = [1005, 1041, 1145] ∧
    ((Sim.run 1003 25 10 true script).evs =
      [.flush 1005 1005, .adv 2, .flush 1040 1015, .flush 1141 1045, .adv 4, .flush 1145 1145]) := by
  decide

end Gsd

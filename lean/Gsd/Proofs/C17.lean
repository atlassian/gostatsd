import Gsd.Proofs.Lemmas.RelayEvent
/-!
# C17 — backend payloads contain every series exactly once and are well formed

The property theorems, with the two notions of the relay round trip that are not part of the model:
`expectedParsed` (what the receiving gostatsd is to read) and `RelayOK` (the property's alphabets).
-/
namespace Gsd
open Backends

/-- **C17_expand_exact.**  For **every** configuration — each of the eight bundled backends (datadog, influxdb
fields, graphite in all three modes, cloudwatch, stdout, otlp with timers as gauges or as histograms, newrelic
with flush type infra, insights or metrics, the statsd relay) —, every sub-metric mask and every view whose
series have distinct Go map keys: the (series, sub-metric) identity `(k, x)` occurs in `expand` exactly once
when the view holds a series `k` for which `x` is enabled, and not at all otherwise. -/
theorem C17_expand_exact (c : Cfg)
    (view : List Series) (hview : (view.map Series.key).Nodup) (k : Key) (x : Sub) :
    (ids (expand c view)).count (k, x) =
      if view.any (fun s => decide (s.key = k) && enabled c s x) then 1 else 0 := by
  rw [count_expand]
  simp only [count_ids_emit]
  exact sum_indicator view hview k (fun s => enabled c s x)

/-- no identity is emitted twice (every configuration) -/
theorem C17_expand_nodup (c : Cfg)
    (view : List Series) (hview : (view.map Series.key).Nodup) : (ids (expand c view)).Nodup := by
  rw [List.nodup_iff_count]
  intro a
  rw [C17_expand_exact c view hview]
  split <;> omega

/-- an identity is emitted iff it is an enabled sub-metric of a series of the view (nothing lost, nothing else;
every configuration) -/
theorem C17_expand_mem (c : Cfg)
    (view : List Series) (hview : (view.map Series.key).Nodup) (k : Key) (x : Sub) :
    (k, x) ∈ ids (expand c view) ↔ ∃ s ∈ view, s.key = k ∧ enabled c s x = true := by
  rw [← List.count_pos_iff, C17_expand_exact c view hview]
  simp only [List.any_eq_true, Bool.and_eq_true, decide_eq_true_eq]
  split <;> simp [*]

/-- a disabled aggregation of a timer is not emitted (the mask is honoured) — statsd naming family -/
theorem C17_disabled_not_emitted (c : Cfg) (hc : StdBackend c) (view : List Series)
    (hview : (view.map Series.key).Nodup) (k : Key) (x : Sub) (hx : c.mask.dis x = true) :
    (k, x) ∉ ids (expand c view) := by
  rw [C17_expand_mem c view hview]
  rintro ⟨s, _, _, he⟩
  rw [enabled_std c hc] at he
  rw [enabledStd_not_dis he] at hx
  cases hx

/-- New Relic honours the mask too, **except** for the four statistics that live inside the Metric API
`summary` metric: a masked aggregation is not emitted unless the flush type is `metrics` and it is one of
lower / upper / count / sum (`nrInSummary`). -/
theorem C17_disabled_not_emitted_newrelic (c : Cfg) (hc : c.backend = .newrelic) (view : List Series)
    (hview : (view.map Series.key).Nodup) (k : Key) (x : Sub) (hx : c.mask.dis x = true)
    (hns : c.nrMode = .metrics → nrInSummary x = false) :
    (k, x) ∉ ids (expand c view) := by
  rw [C17_expand_mem c view hview]
  rintro ⟨s, _, _, he⟩
  rw [enabled_newrelic c hc] at he
  rw [enabledNr_not_dis he hns] at hx
  cases hx

/-- … and those four are emitted **regardless of the mask** (no hypothesis on `c.mask`): with flush type
`metrics`, lower / upper / count / sum of `k` are in the payload exactly when `k` is a plain (non-histogram)
timer of the view.  (The mask removes only the other five aggregations: previous theorem.) -/
theorem C17_newrelic_summary_not_gated (c : Cfg) (hc : c.backend = .newrelic) (hm : c.nrMode = .metrics)
    (view : List Series) (hview : (view.map Series.key).Nodup) (k : Key) (x : Sub) (hx : nrInSummary x = true) :
    (k, x) ∈ ids (expand c view) ↔ ∃ s ∈ view, s.key = k ∧ s.kind = .timer ∧ s.hist = none := by
  rw [C17_expand_mem c view hview]
  simp only [enabled_newrelic c hc, enabledNr_summary hm hx]

/-- non-vacuity: a datadog view with a counter and a timer (upper disabled, one percentile) -/
example :
    let c : Cfg := { backend := .datadog, mask := { upper := true } }
    let view : List Series := [{ kind := .counter, name := "a" }, { kind := .timer, name := "t", pcts := [{ name := "count_90", v := {} }] }]
    StdBackend c ∧ (view.map Series.key).Nodup ∧
    (ids (expand c view)).map (·.2) = [.rate, .count, .lower, .tcount, .countPs, .mean, .median, .std, .sum, .sumSquares, .pct 0] := by
  refine ⟨Or.inl rfl, by decide, by decide⟩

/-- newrelic, flush type `metrics`, a plain timer with `upper` and `mean` masked and one percentile: `mean` is
gone, `upper` (inside the `summary` metric) is still sent -/
example :
    let c : Cfg := { backend := .newrelic, nrMode := .metrics, mask := { upper := true, mean := true } }
    let view : List Series := [{ kind := .timer, name := "t", pcts := [{ name := "count_90", v := {} }] }]
    (view.map Series.key).Nodup ∧
    (ids (expand c view)).map (·.2) = [.lower, .upper, .tcount, .countPs, .median, .std, .sum, .sumSquares, .pct 0] ∧
    (ids (expand c view)).map (·.2) = (([.lower, .upper, .tcount, .countPs, .mean, .median, .std, .sum, .sumSquares, .pct 0,
      .summary, .value, .bucket 0] : List Sub).filter (enabled c { kind := .timer, name := "t", pcts := [{ name := "count_90", v := {} }] })) := by
  refine ⟨by decide, by decide, by decide⟩

/-- newrelic, flush type `infra`, a histogram timer with two buckets: count and per-second companion per bucket
(and none of the plain aggregations, whatever the mask) -/
example :
    let c : Cfg := { backend := .newrelic, nrMode := .infra }
    let view : List Series := [{ kind := .timer, name := "t", hist := some [{ le := "20", inf := false, count := {} }, { le := "", inf := true, count := {} }] },
                               { kind := .gauge, name := "g" }]
    (view.map Series.key).Nodup ∧
    ids (expand c view) = [((.gauge, "g", ""), .value), ((.timer, "t", ""), .bucket 0), ((.timer, "t", ""), .bucketPs 0),
                           ((.timer, "t", ""), .bucket 1), ((.timer, "t", ""), .bucketPs 1)] := by
  refine ⟨by decide, by decide⟩

/-- newrelic, flush type `insights`, a plain timer: the event's own value (`.summary`) precedes the aggregations -/
example :
    (ids (expand { backend := .newrelic, nrMode := .insights, mask := { sum := true } } [{ kind := .timer, name := "t" }])).map (·.2) =
      [.summary, .lower, .upper, .tcount, .countPs, .mean, .median, .std, .sumSquares] := by decide

/-- otlp with `otlpHist = true`: a timer is one histogram data point (`.summary`), with or without
`Timer.Histogram`, whatever the mask -/
example :
    let c : Cfg := { backend := .otlp, otlpHist := true, mask := { lower := true } }
    let view : List Series := [{ kind := .timer, name := "t", pcts := [{ name := "count_90", v := {} }] },
                               { kind := .timer, name := "h", hist := some [{ le := "", inf := true, count := {} }] },
                               { kind := .counter, name := "a" }]
    (view.map Series.key).Nodup ∧
    ids (expand c view) = [((.counter, "a", ""), .rate), ((.counter, "a", ""), .count),
                           ((.timer, "t", ""), .summary), ((.timer, "h", ""), .summary)] := by
  refine ⟨by decide, by decide⟩

/-- **negative witness (finding newrelic-metrics-set-without-value).**  With flush type `metrics` the
newrelic payload of a set carries no value.  The exactness theorems speak about identities (which sub-metric
of which series is present, each once) and hold for newrelic too; this finding is about the type and value the
present record carries, which the executable specification checks on the real payload.  The model reproduces
what the code does. -/
example :
    nrSetHasValue = true ∨   -- (after `handoff/C17-fix-1.patch` and the model switch the witness is gone)
    (expand { backend := .newrelic, nrMode := .metrics } [{ kind := .set, name := "users", value := { e := "4008000000000000" } }]).map
      (fun r => (r.name, r.kind, r.value)) = [("users", "/set", noValue)] := by decide

section partition
variable {α : Type}

/-- influxdb (`flush.go` `maybeFlush`/`finish`), for every list of lines and every batch size -/
theorem C17_batches_partition_influxdb (n : Nat) (lines : List α) :
    (countBatches n lines []).flatten = lines :=
  flatten_countBatches n lines []

/-- datadog and newrelic (`maybeFlush` after each series, slack 20), for every list of per-series
groups and every batch size -/
theorem C17_batches_partition_datadog (n : Nat) (gs : List (List α)) :
    (slackBatches flushSlack n gs []).flatten = gs.flatten :=
  flatten_slackBatches flushSlack n gs []

/-- … and no series is split over two requests: every request is a concatenation of whole groups -/
theorem C17_batches_whole_series_datadog (n : Nat) (gs : List (List α)) :
    ∃ parts : List (List (List α)), parts.flatten = gs ∧
      ∀ b ∈ slackBatches flushSlack n gs [], ∃ p ∈ parts, p.flatten = b :=
  slackBatches_groups flushSlack n gs [] [] rfl

/-- otlp (`groups.insert`), for every list of metrics and every batch size -/
theorem C17_batches_partition_otlp (n : Nat) (ms : List α) : (otlpBatches n ms []).flatten = ms :=
  flatten_otlpBatches n ms []

/-- cloudwatch (chunks of 20), for every list of data -/
theorem C17_batches_partition_cloudwatch (ds : List α) : (cwChunks ds).flatten = ds :=
  flatten_cwGo cwLimit (by decide) ds.length ds (Nat.le_refl _)

/-- statsdaemon relay (`writeLine`), for every list of non-empty lines and every packet size -/
theorem C17_batches_partition_relay (len : α → Nat) (P : Nat) (lines : List α) (hpos : ∀ x ∈ lines, 0 < len x) :
    (packBatches len P lines []).flatten = lines :=
  flatten_packBatches len P lines [] hpos

/-- … and, with no hypothesis at all, the bytes of the datagrams are the bytes of the lines -/
theorem C17_batches_bytes_relay (len : α → Nat) (P : Nat) (lines : List α) :
    ((packBatches len P lines []).map (totalLen len)).sum = totalLen len lines := by
  simpa [totalLen] using totalLen_packBatches len P lines []

end partition

/-- **C17_batches_partition.**  In the model of every batching backend, for every configuration (any
batch size, also 0) and every view, the payloads of one flush concatenate to exactly the records /
lines of the view, in order: nothing is lost or repeated at a batch boundary. -/
theorem C17_batches_partition (c : Cfg) (view : List Series) :
    (slackBatches flushSlack c.batch (groups c view) []).flatten = expand c view ∧          -- datadog
    (slackBatches nrFlushSlack c.batch (groups c view) []).flatten = expand c view ∧        -- newrelic
    (countBatches c.batch ((groups c view).filter (fun g => !g.isEmpty)) []).flatten.flatten = expand c view ∧  -- influxdb (lines)
    (otlpBatches c.batch (expand c view) []).flatten = expand c view ∧                       -- otlp
    (cwChunks (expand c view)).flatten = expand c view ∧                                      -- cloudwatch
    (relayDatagrams c view).flatten = relayAll c view := by                                   -- statsdaemon
  refine ⟨?_, ?_, ?_, ?_, ?_, ?_⟩
  · exact C17_batches_partition_datadog _ _
  · exact flatten_slackBatches _ _ _ _
  · rw [C17_batches_partition_influxdb, List.flatten_filter_not_isEmpty]; rfl
  · exact C17_batches_partition_otlp _ _
  · exact C17_batches_partition_cloudwatch _
  · exact C17_batches_partition_relay _ _ _ (relayLine_pos c view)

/-- non-vacuity / boundary behaviour: batch size 3 over 7 items; datadog with slack over groups of 2;
an over-long line between short ones -/
example : countBatches 3 [1, 2, 3, 4, 5, 6, 7] [] = [[1, 2, 3], [4, 5, 6], [7]] := by decide
example : countBatches 3 [1, 2, 3, 4, 5, 6] [] = [[1, 2, 3], [4, 5, 6]] := by decide
example : slackBatches 20 23 [[1, 2], [3, 4], [5, 6]] [] = [[1, 2, 3, 4], [5, 6]] := by decide
example : slackBatches 20 5 [[1, 2], [], [5]] [] = [[1, 2], [], [5]] := by decide
example : otlpBatches 2 [1, 2, 3, 4] [] = [[1, 2], [3, 4], []] := by decide
example : cwChunks (List.range 41) = [List.range 20, (List.range 20).map (· + 20), [40]] := by decide
example : packBatches id 10 [4, 4, 4, 12, 3, 3] [] = [[4, 4], [4], [12], [3, 3]] := by decide
example : packBatches id 10 [12, 3] [] = [[], [12], [3]] := by decide

/-- **C17_limits.**  For all inputs and all batch sizes ≥ 1: an influxdb request has between 1 and
`batch` lines and all requests but the last are full; an otlp request has at most `batch` metrics;
a cloudwatch call has between 1 and 20 data; a relay datagram is within the packet size unless it
consists of a single line, and a line longer than the packet size always travels alone. -/
theorem C17_limits {α : Type} (n : Nat) (hn : 1 ≤ n) (l : List α) (len : α → Nat) (P : Nat) :
    (∀ b ∈ countBatches n l [], b.length ≤ n ∧ 0 < b.length) ∧
    (∀ b ∈ (countBatches n l []).dropLast, b.length = n) ∧
    (∀ b ∈ otlpBatches n l [], b.length ≤ n) ∧
    (∀ b ∈ cwChunks l, b.length ≤ cwLimit ∧ 0 < b.length) ∧
    (∀ d ∈ packBatches len P l [], totalLen len d ≤ P ∨ d.length ≤ 1) ∧
    (∀ d ∈ packBatches len P l [], ∀ x ∈ d, P < len x → d = [x]) :=
  ⟨length_countBatches n l [] hn, full_countBatches n l [] hn, length_otlpBatches n l [] hn,
    length_cwGo cwLimit (by decide) l.length l, limit_packBatches len P l [] (Or.inr (by simp)),
    packBatches_overlong_alone len P l [] (by simp)⟩

/-- the limits, for the model's payloads of a view -/
theorem C17_limits_view (c : Cfg) (hb : 1 ≤ c.batch) (view : List Series) :
    (∀ b ∈ countBatches c.batch ((groups c view).filter (fun g => !g.isEmpty)) [], b.length ≤ c.batch) ∧
    (∀ b ∈ otlpBatches c.batch (expand c view) [], b.length ≤ c.batch) ∧
    (∀ b ∈ cwChunks (expand c view), b.length ≤ 20) ∧
    (∀ d ∈ relayDatagrams c view, totalLen List.length d ≤ c.packet ∨ d.length ≤ 1) := by
  refine ⟨fun b hb' => ((C17_limits c.batch hb _ (fun _ => 0) 0).1 b hb').1,
          (C17_limits c.batch hb _ (fun _ => 0) 0).2.2.1,
          fun b hb' => ((C17_limits c.batch hb (expand c view) (fun _ => 0) 0).2.2.2.1 b hb').1,
          (C17_limits c.batch hb (relayAll c view) List.length c.packet).2.2.2.2.1⟩

/-- what the receiving gostatsd is expected to read from the lines of one series -/
def expectedParsed (c : Cfg) (s : Series) : List Parsed :=
  let tags : List Line := if s.tagsKey.toList = [] || c.noTags then [] else (lexTags [] s.tagsKey.toList).1
  let P (v : String) (ty : MType) : Parsed := { name := s.name.toList, value := v.toList, ty, tags }
  match s.kind with
  | .counter => if hasPrefix "statsd." s.name then [] else [P s.value.ft .c]
  | .timer => s.values.map (fun v => P v.ft .ms)
  | .gauge => [P s.value.ft .g]
  | .set => s.members.map (fun m => P m .s)

/-- the alphabets of the property: names over `[A-Za-z0-9_.-]`, non-empty; printed values (`%d`, `%f`,
set members) and the tags key free of `|` (a fortiori for tags and members over letters, digits and `_ . : / -`, and for decimal numbers) -/
structure RelayOK (s : Series) : Prop where
  name_ne : s.name.toList ≠ []
  name_ok : ∀ ch ∈ s.name.toList, isNameChar ch = true
  tags_ok : ∀ ch ∈ s.tagsKey.toList, ch ≠ '|'
  value_ok : ∀ ch ∈ s.value.ft.toList, ch ≠ '|'
  values_ok : ∀ v ∈ s.values, ∀ ch ∈ v.ft.toList, ch ≠ '|'
  members_ok : ∀ m ∈ s.members, ∀ ch ∈ m.toList, ch ≠ '|'

/-- **C17_relay_roundtrip.**  For every series over the property's alphabets, the lexer reads from
the relay's lines (newline stripped, as the datagram parser does) exactly: the series name, one
datapoint per counter (its total, as printed by `%d`), per gauge (`%f`), per timer value (`%f`, type
`ms`) and per set member, each with the tag list of `|#tagsKey`; counters named `statsd.*` are
(deliberately) absent.  The numeric conversion is the formatter hypothesis `parseFloat (fmt v) = some v`
applied to `value`.  (`parseLine` leaves out the lexer's dispatch on a leading `_`: see the example on `_x` below.) -/
theorem C17_relay_roundtrip (c : Cfg) (s : Series) (h : RelayOK s) :
    (relayLines c s).map (fun l => parseLine l.dropLast) = (expectedParsed c s).map some := by
  -- the type text is a string literal: `String.toList_ofList` reads it as the char list `tyText t`
  have one (v ty : String) (t : MType) (hty : ty.toList = tyText t) (hv : ∀ ch ∈ v.toList, ch ≠ '|') :
      parseLine (relayLine c.noTags s.name.toList v.toList ty.toList s.tagsKey.toList).dropLast =
        some { name := s.name.toList, value := v.toList, ty := t,
               tags := if s.tagsKey.toList = [] || c.noTags then [] else (lexTags [] s.tagsKey.toList).1 } := by
    rw [dropLast_relayLine, hty]
    exact parseLine_relayBody c.noTags _ _ _ t h.name_ne h.name_ok hv h.tags_ok
  unfold relayLines expectedParsed
  cases s.kind <;> dsimp only
  case counter =>
    split
    · rfl
    · exact congrArg (· :: []) (one _ "c" .c String.toList_ofList h.value_ok)
  case timer =>
    simp only [List.map_map, Function.comp_def]
    exact List.map_congr_left fun v hv => one v.ft "ms" .ms String.toList_ofList (h.values_ok v hv)
  case gauge => exact congrArg (· :: []) (one _ "g" .g String.toList_ofList h.value_ok)
  case set =>
    simp only [List.map_map, Function.comp_def]
    exact List.map_congr_left fun m hm => one m "s" .s String.toList_ofList (h.members_ok m hm)

/-- … and the tag list is the series' non-empty tags followed by the source as an extra `s:` tag, when the
tags key is what `FormatTagsKey` builds from tags free of `,` and `|` -/
theorem C17_relay_tags_roundtrip (tags : List Line) (source : Line)
    (htags : ∀ a ∈ tags, NoSep a) (hsrc : NoSep source) :
    (lexTags [] (tagsKeyOf tags source)).1 =
      tags.filter (fun a => a ≠ []) ++ (if source = [] then [] else ['s' :: ':' :: source]) := by
  rw [lexTags_tagsKeyOf tags source htags hsrc]

/-- the formatter hypothesis closes the loop on numbers: if parsing undoes formatting, the datapoint's
number is the view's number -/
theorem C17_relay_value_roundtrip {ν : Type} (parseFloat : Line → Option ν) (fmt : ν → Line)
    (hfmt : ∀ v, parseFloat (fmt v) = some v) (hbar : ∀ v, ∀ ch ∈ fmt v, ch ≠ '|')
    (noTags : Bool) (name tagsKey : Line) (t : MType) (v : ν)
    (hne : name ≠ []) (hname : ∀ ch ∈ name, isNameChar ch = true) (htags : ∀ ch ∈ tagsKey, ch ≠ '|') :
    (parseLine (relayBody noTags name (fmt v) (tyText t) tagsKey)).bind (fun p => parseFloat p.value) = some v := by
  rw [parseLine_relayBody noTags name (fmt v) tagsKey t hne hname (hbar v) htags]
  simp [hfmt]

/-- non-vacuity: a counter with tags and a source -/
example :
    parseLine "web.requests:42|c|#env:prod,k:v,s:10.0.0.1".toList =
      some { name := "web.requests".toList, value := "42".toList, ty := .c,
             tags := ["env:prod".toList, "k:v".toList, "s:10.0.0.1".toList] } := by
  -- to the kernel a string literal is `String.ofList [chars]`; evaluating `toList` on it would go through UTF-8
  repeat rw [String.toList_ofList]
  decide

example : tagsKeyOf [] "h".toList = ",s:h".toList ∧ (lexTags [] ",s:h".toList).1 = ["s:h".toList] := by
  repeat rw [String.toList_ofList]
  decide

/-- a name that starts with `_` is written as it is.  gostatsd's lexer takes a leading `_` for the event grammar
(`lexSpecial`) and rejects such a line; `parseLine` leaves that dispatch out, so for gostatsd `C17_relay_roundtrip`
speaks of names that do not start with `_` -/
example : (relayBody false "_x".toList "1".toList "c".toList []) = "_x:1|c".toList := by
  repeat rw [String.toList_ofList]
  decide

/-- **C17_relay_event_roundtrip.**  What `constructEventMessage` writes for an event, gostatsd's lexer
(model of `lexDatadogSpecial` / `lexEventBody` / `lexEventAttribute`) reads back as the same event:
title and text (any bytes, also `|`, `,`; the text without a literal backslash-n pair; the lexer model also reads back a
newline in the title, which the receiving server's line splitter would cut at),
timestamp, host, aggregation key, source type (free of `|`), priority, alert type and the tag list
(non-empty tags free of `,` and `|`).  `dec` is `strconv.Itoa`; the formatter hypothesis `DecAt` (decimal
digits that `lexUint` reads back) is needed for the two lengths and the timestamp only. -/
theorem C17_relay_event_roundtrip (dec : Nat → Line) (e : Event)
    (hd1 : DecAt dec e.title.length) (hd2 : DecAt dec (escNL e.text).length) (hd3 : DecAt dec e.date) (h : EventOK e) :
    parseEvent (eventMessage dec e) = some e := by
  rw [eventMessage, parseEvent_sections dec _ _ _ hd1 hd2 (eventFields_noBar dec e hd3 h), unescNL_escNL e.text h.text,
    evFields_eventFields dec e hd3 h]
  rfl

/-- the same under the global formatter hypothesis -/
theorem C17_relay_event_roundtrip' (dec : Nat → Line) (hd : DecOK dec) (e : Event) (h : EventOK e) :
    parseEvent (eventMessage dec e) = some e :=
  C17_relay_event_roundtrip dec e (hd _) (hd _) (hd _) h

/-- non-vacuity: an event with every optional section, separators in the title and a newline in the text;
Lean's own `Nat.repr` satisfies the formatter hypothesis at the three numbers involved -/
example :
    let dec : Nat → Line := fun n => (toString n).toList
    let e : Event := { title := "ti|tle,#".toList, text := "line1\nline2|x".toList, date := 1700000000, host := "h1".toList,
                       aggKey := "agg".toList, srcType := "src".toList, pri := 1, alert := 2, tags := ["k:v".toList, "plain".toList] }
    eventMessage dec e = "_e{8,14}:ti|tle,#|line1\\nline2|x|d:1700000000|h:h1|k:agg|s:src|p:low|t:error|#k:v,plain".toList ∧
    parseEvent (eventMessage dec e) = some e := by
  intro dec e
  simp only [dec, e]
  repeat rw [String.toList_ofList]
  exact ⟨by decide +kernel, by decide +kernel⟩

/-- … and the hypotheses of the theorem hold for such an event -/
example :
    let dec : Nat → Line := fun n => (toString n).toList
    let e : Event := { title := "t|1".toList, text := "a\nb".toList, date := 17, host := "h1".toList, pri := 1, alert := 3,
                       tags := ["k:v".toList] }
    DecAt dec e.title.length ∧ DecAt dec (escNL e.text).length ∧ DecAt dec e.date ∧ EventOK e := by
  intro dec e
  simp only [dec, e]
  repeat rw [String.toList_ofList]
  refine ⟨⟨by decide, by decide, by decide⟩, ⟨by decide, by decide, by decide⟩, ⟨by decide, by decide, by decide⟩,
    ⟨by simp [NoBSN], by decide, by decide, by decide, by decide, by decide, ?_, by decide⟩⟩
  simp only [List.mem_singleton, forall_eq, NoSep]
  decide

/-- the text `a\` + newline is escaped to `a\\n`… and read back: only a literal backslash-n pair is lost -/
example : unescNL (escNL "a\\\n".toList) = "a\\\n".toList ∧ unescNL (escNL "a\\n".toList) ≠ "a\\n".toList := by
  repeat rw [String.toList_ofList]
  decide

/-- **C17_source_constants.**  The batching constants the model reads from the source on every run are the ones
the property and BACKENDS.md speak about: CloudWatch chunks hold at most 20 data and at least one.  (The
Datadog / New Relic slack may take any value: `flatten_slackBatches` and `slackBatches_groups` hold for every slack.) -/
theorem C17_source_constants :
    cwLimit ≤ 20 ∧ 0 < cwLimit := by decide

end Gsd

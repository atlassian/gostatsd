import Gsd.Proofs.Lemmas.Aggregator
import Gsd.Model.ExactQ
/-!
# C08 — timer statistics and histograms are those of the received multiset

`α` is **any** linearly ordered field with a floor function, `sqrt` an arbitrary function (`HasSqrt`):
the theorems say what the formulas of `MetricAggregator.Flush` *mean* in exact arithmetic, for every list
of values, every sampled count, every configuration.  The same polymorphic definitions run with `Float`
in the driver and are compared bit-exactly with the real code.

All statements are for both values of the D4 switch `fx` (the pinned tree and the repaired code):
they are about every run that returns (`= .ok out`); that the repaired code always returns is C04.
-/
namespace Gsd
section
variable {α : Type} [Field α] [LinearOrder α] [IsStrictOrderedRing α] [FloorRing α] [HasSqrt α]

/-- **C08_sorted.**  `Flush` works on *the* ascending arrangement of the received multiset. -/
theorem C08_sorted (vs : List α) : (isort vs).Perm vs ∧ (isort vs).Pairwise (· ≤ ·) :=
  ⟨isort_perm vs, isort_sorted vs⟩

/-- **C08_basic.**  For a plain timer (no histogram tag) with at least one value, whatever the arrival
order: `Min`/`Max` are the least/greatest received value, `Sum = Σ x`, `SumSquares = Σ x²`,
`Mean = Σ x / n`, `StdDev = sqrt (Σ (x − mean)² / n)` (population deviation), `Median` = the middle element
of the ascending arrangement, or the mean of the two middle elements when `n` is even. -/
theorem C08_basic (fx : Bool) (parse : Bytes → Option α) (cfg : AggCfg) (secs : α) (t out : ATimer α)
    (hh : hasHistogramTag t.tags = false) (hne : t.values ≠ [])
    (h : flushTimerWith fx parse cfg secs t = .ok out) :
    let vs := t.values
    let n : α := (vs.length : α)
    let mean := vs.sum / n
    (out.min ∈ vs ∧ ∀ x ∈ vs, out.min ≤ x) ∧
    (out.max ∈ vs ∧ ∀ x ∈ vs, x ≤ out.max) ∧
    out.sum = vs.sum ∧
    out.sumSquares = (vs.map (fun x => x * x)).sum ∧
    out.mean = mean ∧
    out.stdDev = HasSqrt.sqrt ((vs.map (fun x => (x - mean) * (x - mean))).sum / n) ∧
    out.median = specMedian (isort vs) := by
  have ho := flushTimerWith_plain fx parse cfg secs t out hh hne h
  have hperm := isort_perm t.values
  have hsorted := isort_sorted t.values
  have hlen : (isort t.values).length = t.values.length := isort_length t.values
  have hpos : 0 < (isort t.values).length := by
    rw [hlen]; exact List.length_pos_iff.mpr hne
  have hl1 : (isort t.values).length - 1 < (isort t.values).length := by omega
  have hsum : (isort t.values).sum = t.values.sum := hperm.sum_eq
  have hcast : ((isort t.values).length : α) = t.values.length := by rw [hlen]
  subst ho
  simp only [specFlush, List.getElem?_eq_getElem hpos, List.getElem?_eq_getElem hl1, Option.getD_some, hsum, hcast]
  refine ⟨⟨hperm.mem_iff.mp (List.getElem_mem hpos), fun x hx => ?min⟩,
    ⟨hperm.mem_iff.mp (List.getElem_mem hl1), fun x hx => ?max⟩, trivial, (hperm.map _).sum_eq, trivial, ?stdDev, trivial⟩
  case min => exact sorted_boundary_le_drop hsorted 0 hpos x (hperm.mem_iff.mpr hx)
  case max => exact sorted_take_le_boundary hsorted _ hpos (Nat.le_refl _) x (List.take_length ▸ hperm.mem_iff.mpr hx)
  case stdDev => rw [(hperm.map _).sum_eq]

/-- **C08_count.**  `Count = ⌊sampled + ½⌋` (the sampled count is `Σ 1/rate`), `PerSecond = sampled / Δ`. -/
theorem C08_count (fx : Bool) (parse : Bytes → Option α) (cfg : AggCfg) (secs : α) (t out : ATimer α)
    (hh : hasHistogramTag t.tags = false) (hne : t.values ≠ [])
    (h : flushTimerWith fx parse cfg secs t = .ok out) :
    out.count = ⌊t.sampledCount + 1 / 2⌋ ∧ out.perSecond = t.sampledCount / secs ∧
      out.sampledCount = t.sampledCount := by
  have ho := flushTimerWith_plain fx parse cfg secs t out hh hne h
  subst ho
  exact ⟨rfl, rfl, rfl⟩

/-- **C08_idle.**  A plain timer without values (a persisted series that received nothing) reports
count 0, sampled count 0, rate 0 and nothing else changes. -/
theorem C08_idle (fx : Bool) (parse : Bytes → Option α) (cfg : AggCfg) (secs : α) (t : ATimer α)
    (hh : hasHistogramTag t.tags = false) (he : t.values = []) :
    flushTimerWith fx parse cfg secs t = .ok { t with count := 0, sampledCount := 0, perSecond := 0 } := by
  rw [flushTimerWith_eq, if_neg (by simp [hh]), if_pos he]

/-- **C08_rank.**  The rank computed by `int(round(|p|/100 · n))` is `(2·|p|·n + 100) / 200` in natural
numbers, for every integer threshold and every `n` (the code uses `n` itself when `n ≤ 1`: `specRank`). -/
theorem C08_rank (p : Int) (n : Nat) : rank α p n = ((2 * p.natAbs * n + 100) / 200 : Nat) :=
  rank_eq p n

/-- … and for a threshold of magnitude at most 100 the rank does not exceed `n`: the `k` lowest (highest) values exist. -/
theorem C08_rank_le (p : Int) (n : Nat) (hp : p.natAbs ≤ 100) : specRank p n ≤ n :=
  specRank_le p n hp

section
set_option linter.unusedVariables false -- `hne` stands in both statements; it follows from `hmin`

/-- **C08_pct_pos.**  A positive threshold `p ≤ 100`, on the ascending values `s` (`n = |s| ≥ 1`), with
`k = specRank p n`: the threshold is omitted iff `k = 0`; otherwise count, sum, mean, sum of squares are
those of the `k` lowest values `s.take k`, the boundary (`upper_p`) is `s[k-1]`, the greatest of them, and
every one of them is ≤ every remaining value. -/
theorem C08_pct_pos (fx : Bool) (vs : List α) (hne : vs ≠ []) (p : Int) (hp : 0 < p) (hp100 : p.natAbs ≤ 100)
    (minV maxV : α) (r : Option (PctVals α))
    (hmin : (isort vs)[0]? = some minV) (hmax : (isort vs)[(isort vs).length - 1]? = some maxV)
    (h : pctVals fx (isort vs) (cumul (fun x => x) (isort vs)) (cumul sq (isort vs)) minV maxV p = .ok r) :
    let s := isort vs
    let k := specRank p s.length
    (k = 0 → r = none) ∧
    (k ≠ 0 → k ≤ s.length ∧ ∃ v, r = some v ∧ v.k = k ∧ v.sum = (s.take k).sum ∧
      v.mean = (s.take k).sum / (k : α) ∧ v.sumSq = ((s.take k).map (fun x => x * x)).sum ∧
      v.boundary = s[k - 1]?.getD 0 ∧ (∀ x ∈ s.take k, x ≤ v.boundary) ∧
      (∀ x ∈ s.take k, ∀ y ∈ s.drop k, x ≤ y)) := by
  dsimp only
  generalize hs : isort vs = s at *
  generalize hk : specRank p s.length = k
  have hr := pctVals_spec fx s minV maxV p hmin hmax r h
  have hkn : k ≤ s.length := by rw [← hk]; exact C08_rank_le p s.length hp100
  have hsorted : s.Pairwise (· ≤ ·) := by rw [← hs]; exact isort_sorted vs
  refine ⟨fun hk0 => hr.trans (specPct_zero s (hk.trans hk0)), fun hk0 => ?_⟩
  have hlt : k - 1 < s.length := by omega
  rw [hr, specPct_pos s hp hk hk0]
  refine ⟨hkn, _, rfl, rfl, rfl, rfl, rfl, rfl, ?_, fun _ hx _ hy => hsorted.rel_of_mem_take_of_mem_drop hx hy⟩
  simp only [List.getElem?_eq_getElem hlt, Option.getD_some]
  exact sorted_take_le_boundary hsorted k (by omega) hkn

/-- **C08_pct_neg.**  A negative threshold `p ≥ −100`: the same for the `k` *highest* values `s.drop (n-k)`; the
boundary (`lower_p`) is `s[n-k]`, the least of them, and every one of them is ≥ every remaining value. -/
theorem C08_pct_neg (fx : Bool) (vs : List α) (hne : vs ≠ []) (p : Int) (hp : p < 0) (hp100 : p.natAbs ≤ 100)
    (minV maxV : α) (r : Option (PctVals α))
    (hmin : (isort vs)[0]? = some minV) (hmax : (isort vs)[(isort vs).length - 1]? = some maxV)
    (h : pctVals fx (isort vs) (cumul (fun x => x) (isort vs)) (cumul sq (isort vs)) minV maxV p = .ok r) :
    let s := isort vs
    let n := s.length
    let k := specRank p n
    (k = 0 → r = none) ∧
    (k ≠ 0 → k ≤ n ∧ ∃ v, r = some v ∧ v.k = k ∧ v.sum = (s.drop (n - k)).sum ∧
      v.mean = (s.drop (n - k)).sum / (k : α) ∧ v.sumSq = ((s.drop (n - k)).map (fun x => x * x)).sum ∧
      v.boundary = s[n - k]?.getD 0 ∧ (∀ x ∈ s.drop (n - k), v.boundary ≤ x) ∧
      (∀ x ∈ s.take (n - k), ∀ y ∈ s.drop (n - k), x ≤ y) ∧ (s.drop (n - k)).length = k) := by
  dsimp only
  generalize hs : isort vs = s at *
  generalize hk : specRank p s.length = k
  have hr := pctVals_spec fx s minV maxV p hmin hmax r h
  have hkn : k ≤ s.length := by rw [← hk]; exact C08_rank_le p s.length hp100
  have hsorted : s.Pairwise (· ≤ ·) := by rw [← hs]; exact isort_sorted vs
  refine ⟨fun hk0 => hr.trans (specPct_zero s (hk.trans hk0)), fun hk0 => ?_⟩
  have hlt : s.length - k < s.length := by omega
  rw [hr, specPct_nonpos s (by omega) hk hk0]
  refine ⟨hkn, _, rfl, rfl, rfl, rfl, rfl, rfl, ?_, fun _ hx _ hy => hsorted.rel_of_mem_take_of_mem_drop hx hy,
    by rw [List.length_drop]; omega⟩
  simp only [List.getElem?_eq_getElem hlt, Option.getD_some]
  exact sorted_boundary_le_drop hsorted _ hlt

end

/-- **C08_percentiles.**  The percentile table of a flushed plain timer: for each *distinct* configured
threshold (a duplicate in the configuration collapses: the thresholds are the keys of a Go map) the
enabled sub-metrics of `specPct` — `C08_pct_pos` / `C08_pct_neg` say what that is — under the names
`count_<p>`, `mean_<p>`, `sum_<p>`, `sum_squares_<p>`, `upper_<p>` / `lower_<p>`. -/
theorem C08_percentiles (fx : Bool) (parse : Bytes → Option α) (cfg : AggCfg) (secs : α) (t out : ATimer α)
    (hh : hasHistogramTag t.tags = false) (hne : t.values ≠ [])
    (h : flushTimerWith fx parse cfg secs t = .ok out) :
    out.percentiles = t.percentiles ++ (dedupInt cfg.pcts).flatMap (fun p =>
      match specPct (isort t.values) p with
      | none => []
      | some v => pctEntries cfg.mask p v) := by
  have ho := flushTimerWith_plain fx parse cfg secs t out hh hne h
  subst ho
  simp only [specFlush, pctTable, List.flatMap_map]
  congr 2

/-- **C08_perm.**  Permutation invariance: two arrival orders of the same multiset give the same flushed
timer, field by field (statistics, percentile table, sorted values), including the same panic outcome. -/
theorem C08_perm (fx : Bool) (parse : Bytes → Option α) (cfg : AggCfg) (secs : α) (t : ATimer α)
    (vs vs' : List α) (hp : vs.Perm vs') (hh : hasHistogramTag t.tags = false) :
    flushTimerWith fx parse cfg secs { t with values := vs } =
      flushTimerWith fx parse cfg secs { t with values := vs' } := by
  simp only [flushTimerWith_eq, hh, Bool.false_eq_true, if_false]
  by_cases he : vs = []
  · subst he; rw [← hp.nil_eq]
  · rw [if_neg he, if_neg fun he' => he (he' ▸ hp).eq_nil, isort_eq_of_perm hp, hp.length_eq]
    rfl

/-- **C08_mask.**  A disabled percentile sub-metric is absent and nothing else changes: (1) the entries of
one threshold are the full list filtered by the mask; (2) two masks give the same outcome and the same
timer up to the percentile table. -/
theorem C08_mask (m : Mask) (p : Int) (v : PctVals α) :
    pctEntries m p v = ((pctEntriesAll p v).filter (fun e => !m.disabledPct e.1)).map (·.2) :=
  pctEntries_eq_filter m p v

theorem C08_mask_rest (fx : Bool) (parse : Bytes → Option α) (cfg : AggCfg) (m m' : Mask) (secs : α) (t : ATimer α) :
    (flushTimerWith fx parse { cfg with mask := m } secs t).map (fun o => { o with percentiles := [] }) =
      (flushTimerWith fx parse { cfg with mask := m' } secs t).map (fun o => { o with percentiles := [] }) := by
  rw [flushTimerWith_eq, flushTimerWith_eq]
  split
  · rfl
  · split
    · rfl
    · -- the mask reaches `specFlush` in the percentile table only, and not the panic site
      cases (dedupInt cfg.pcts).findSome? (pctPanic fx t.values.length) with
      | some st => simp only [Res.okUnless_some, Res.map]
      | none => simp only [Res.okUnless_none, Res.map_ok, specFlush]

/-- **C08_hist.**  A timer with a `gsd_histogram:` tag gets bucket counts and none of the summary
statistics (every other field is left as it was): nothing at all when the limit is 0; otherwise, with
`ths` = the first `limit` parsable items of the tag value split on `_` (unparsable items skipped *before*
the limit is applied), one bucket per distinct bound holding the number of values not greater than the
bound, the `+Inf` bucket holding the number of values, and no other bucket. -/
theorem C08_hist (fx : Bool) (parse : Bytes → Option α) (cfg : AggCfg) (secs : α) (t : ATimer α) (tag : Bytes)
    (hh : findTag histPrefix t.tags = some tag) :
    let ths := ((splitOn histSep (tag.drop histPrefix.length)).filterMap parse).take cfg.limit
    ∃ H, flushTimerWith fx parse cfg secs t = .ok { t with histogram := some H } ∧
      (cfg.limit = 0 → H = []) ∧
      (cfg.limit ≠ 0 →
        (histKeys H).Nodup ∧
        histLookup .inf H = some t.values.length ∧
        (∀ b ∈ ths, histLookup (.fin b) H = some (t.values.countP (fun v => decide (v ≤ b)))) ∧
        (∀ b, b ∉ ths → histLookup (.fin b) H = none)) := by
  intro ths
  have hht : hasHistogramTag t.tags = true := by simp [hasHistogramTag, hh]
  by_cases hl : cfg.limit = 0
  · refine ⟨[], ?_, fun _ => rfl, fun h => absurd hl h⟩
    rw [flushTimerWith_eq, if_pos hht, hl, latencyHistogram_limit0]
  · obtain ⟨H, hH, hb⟩ := latencyHistogram_buckets parse t.tags t.values cfg.limit hl ths
      (retrieveThresholds_eq parse t.tags cfg.limit tag hh)
    refine ⟨H, ?_, fun h => absurd h hl, fun _ => hb⟩
    rw [flushTimerWith_eq, if_pos hht, hH]

/-- the bucket counts do not depend on the arrival order either -/
theorem C08_hist_perm (parse : Bytes → Option α) (tags : List Bytes) (limit : Nat) (vs vs' : List α) (hp : vs.Perm vs') :
    latencyHistogram parse tags vs limit = latencyHistogram parse tags vs' limit := by
  simp only [latencyHistogram_eq, hp.length_eq, hp.countP_eq]

/-- `C08_basic` / `C08_count` / `C08_percentiles`: a plain timer with five values, positive and negative
thresholds, on the repaired code — the run returns (so the hypothesis `= .ok out` is inhabited) -/
example : ∃ out : ATimer α, hasHistogramTag ([] : List Bytes) = false ∧ ([3, 1, 2, 5, 4] : List α) ≠ [] ∧
    flushTimerWith true (fun _ => none) { pcts := [90, -50, 90] } 10 (ATimer.fresh [] [3, 1, 2, 5, 4] 5) = .ok out := by
  obtain ⟨out, h⟩ := flushTimerWith_total (α := α) (fun _ => none) { pcts := [90, -50, 90] }
    (by unfold AggCfg.Valid; decide) 10 (ATimer.fresh [] [3, 1, 2, 5, 4] 5)
  exact ⟨out, rfl, by simp, h⟩

/-- the same on the pinned tree (`fx = false`), evaluated in the kernel with exact fractions; then `C08_hist`'s
hypothesis (a timer carrying a histogram tag) -/
example : (flushTimerWith (α := Q) false (fun _ => none) { pcts := [-90, 90] } 10 (ATimer.fresh [] [1, 2, 3, 4, 5, 6] 6)).isOk = true := by
  decide
example : findTag histPrefix [asciiBytes "a:b", asciiBytes "gsd_histogram:1_x_5"] = some (asciiBytes "gsd_histogram:1_x_5") := by
  decide +kernel

end
end Gsd
